import BdModel.Extracted.Auth
import BdModel.Canon.Auth
/- Tie obligations: what the extractor reads from /repo NOW equals what the model was written against. -/
namespace BdModel.Tie.Auth

theorem tie_h_mw_SetupGlobalMiddleware : Extracted.Auth.h_mw_SetupGlobalMiddleware = Canon.Auth.h_mw_SetupGlobalMiddleware := rfl
theorem tie_h_mw_prefixChecker : Extracted.Auth.h_mw_prefixChecker = Canon.Auth.h_mw_prefixChecker := rfl
theorem tie_h_mw_isAuthenticated : Extracted.Auth.h_mw_isAuthenticated = Canon.Auth.h_mw_isAuthenticated := rfl
theorem tie_h_mw_withAuthenticated : Extracted.Auth.h_mw_withAuthenticated = Canon.Auth.h_mw_withAuthenticated := rfl
theorem tie_h_mw_cors : Extracted.Auth.h_mw_cors = Canon.Auth.h_mw_cors := rfl
theorem tie_h_mw_Setup : Extracted.Auth.h_mw_Setup = Canon.Auth.h_mw_Setup := rfl
theorem tie_h_mw_BasicAuth : Extracted.Auth.h_mw_BasicAuth = Canon.Auth.h_mw_BasicAuth := rfl
theorem tie_h_mw_skipBasicAuth : Extracted.Auth.h_mw_skipBasicAuth = Canon.Auth.h_mw_skipBasicAuth := rfl
theorem tie_h_mw_TokenAuth : Extracted.Auth.h_mw_TokenAuth = Canon.Auth.h_mw_TokenAuth := rfl
theorem tie_h_mw_skipTokenAuth : Extracted.Auth.h_mw_skipTokenAuth = Canon.Auth.h_mw_skipTokenAuth := rfl
theorem tie_h_rest_auth_frontend_middleware_basic_auth_go : Extracted.Auth.h_rest_auth_frontend_middleware_basic_auth_go = Canon.Auth.h_rest_auth_frontend_middleware_basic_auth_go := rfl
theorem tie_h_rest_auth_frontend_middleware_token_auth_go : Extracted.Auth.h_rest_auth_frontend_middleware_token_auth_go = Canon.Auth.h_rest_auth_frontend_middleware_token_auth_go := rfl
theorem tie_h_rest_auth_frontend_middleware_global_go : Extracted.Auth.h_rest_auth_frontend_middleware_global_go = Canon.Auth.h_rest_auth_frontend_middleware_global_go := rfl
theorem tie_h_rest_auth_frontend_frontend_go : Extracted.Auth.h_rest_auth_frontend_frontend_go = Canon.Auth.h_rest_auth_frontend_frontend_go := rfl
theorem tie_h_rest_auth_frontend_server_server_go : Extracted.Auth.h_rest_auth_frontend_server_server_go = Canon.Auth.h_rest_auth_frontend_server_server_go := rfl
theorem tie_h_rest_auth_config_config_go : Extracted.Auth.h_rest_auth_config_config_go = Canon.Auth.h_rest_auth_config_config_go := rfl
theorem tie_h_rest_auth_frontend_gen_restapi_configure_blackdagger_go : Extracted.Auth.h_rest_auth_frontend_gen_restapi_configure_blackdagger_go = Canon.Auth.h_rest_auth_frontend_gen_restapi_configure_blackdagger_go := rfl
theorem tie_skipBasicCond : Extracted.Auth.skipBasicCond = Canon.Auth.skipBasicCond := rfl
theorem tie_wrapOrder : Extracted.Auth.wrapOrder = Canon.Auth.wrapOrder := rfl

#print axioms tie_h_mw_SetupGlobalMiddleware
#print axioms tie_h_mw_prefixChecker
#print axioms tie_h_mw_isAuthenticated
#print axioms tie_h_mw_withAuthenticated
#print axioms tie_h_mw_cors
#print axioms tie_h_mw_Setup
#print axioms tie_h_mw_BasicAuth
#print axioms tie_h_mw_skipBasicAuth
#print axioms tie_h_mw_TokenAuth
#print axioms tie_h_mw_skipTokenAuth
#print axioms tie_h_rest_auth_frontend_middleware_basic_auth_go
#print axioms tie_h_rest_auth_frontend_middleware_token_auth_go
#print axioms tie_h_rest_auth_frontend_middleware_global_go
#print axioms tie_h_rest_auth_frontend_frontend_go
#print axioms tie_h_rest_auth_frontend_server_server_go
#print axioms tie_h_rest_auth_config_config_go
#print axioms tie_h_rest_auth_frontend_gen_restapi_configure_blackdagger_go
#print axioms tie_skipBasicCond
#print axioms tie_wrapOrder

end BdModel.Tie.Auth
