import BdModel.Extracted.Defs
import BdModel.Canon.Defs
/- Tie obligations: what the extractor reads from /repo NOW equals what the model was written against. -/
namespace BdModel.Tie.Defs

theorem tie_h_defs_dagStoreImpl_UpdateSpec : Extracted.Defs.h_defs_dagStoreImpl_UpdateSpec = Canon.Defs.h_defs_dagStoreImpl_UpdateSpec := rfl
theorem tie_h_defs_dagStoreImpl_Create : Extracted.Defs.h_defs_dagStoreImpl_Create = Canon.Defs.h_defs_dagStoreImpl_Create := rfl
theorem tie_h_defs_dagStoreImpl_Delete : Extracted.Defs.h_defs_dagStoreImpl_Delete = Canon.Defs.h_defs_dagStoreImpl_Delete := rfl
theorem tie_h_defs_dagStoreImpl_Rename : Extracted.Defs.h_defs_dagStoreImpl_Rename = Canon.Defs.h_defs_dagStoreImpl_Rename := rfl
theorem tie_h_defs_dagStoreImpl_fileLocation : Extracted.Defs.h_defs_dagStoreImpl_fileLocation = Canon.Defs.h_defs_dagStoreImpl_fileLocation := rfl
theorem tie_h_defs__exists : Extracted.Defs.h_defs__exists = Canon.Defs.h_defs__exists := rfl
theorem tie_h_defs__writeFileAtomic : Extracted.Defs.h_defs__writeFileAtomic = Canon.Defs.h_defs__writeFileAtomic := rfl
theorem tie_h_defs_dagStoreImpl_ensureDirExist : Extracted.Defs.h_defs_dagStoreImpl_ensureDirExist = Canon.Defs.h_defs_dagStoreImpl_ensureDirExist := rfl
theorem tie_h_defs__checkExtension : Extracted.Defs.h_defs__checkExtension = Canon.Defs.h_defs__checkExtension := rfl
theorem tie_h_defs_AddYamlExtension : Extracted.Defs.h_defs_AddYamlExtension = Canon.Defs.h_defs_AddYamlExtension := rfl
theorem tie_h_defs__find : Extracted.Defs.h_defs__find = Canon.Defs.h_defs__find := rfl
theorem tie_h_defs_dagStoreImpl_resolve : Extracted.Defs.h_defs_dagStoreImpl_resolve = Canon.Defs.h_defs_dagStoreImpl_resolve := rfl
theorem tie_h_defs_client_CreateDAG : Extracted.Defs.h_defs_client_CreateDAG = Canon.Defs.h_defs_client_CreateDAG := rfl
theorem tie_h_defs_client_Rename : Extracted.Defs.h_defs_client_Rename = Canon.Defs.h_defs_client_Rename := rfl
theorem tie_h_defs_client_UpdateDAG : Extracted.Defs.h_defs_client_UpdateDAG = Canon.Defs.h_defs_client_UpdateDAG := rfl
theorem tie_h_defs_client_DeleteDAG : Extracted.Defs.h_defs_client_DeleteDAG = Canon.Defs.h_defs_client_DeleteDAG := rfl
theorem tie_h_rest_defs_persistence_local_dag_store_go : Extracted.Defs.h_rest_defs_persistence_local_dag_store_go = Canon.Defs.h_rest_defs_persistence_local_dag_store_go := rfl
theorem tie_h_rest_defs_client_client_go : Extracted.Defs.h_rest_defs_client_client_go = Canon.Defs.h_rest_defs_client_client_go := rfl
theorem tie_h_rest_defs_frontend_dag_handler_go : Extracted.Defs.h_rest_defs_frontend_dag_handler_go = Canon.Defs.h_rest_defs_frontend_dag_handler_go := rfl

#print axioms tie_h_defs_dagStoreImpl_UpdateSpec
#print axioms tie_h_defs_dagStoreImpl_Create
#print axioms tie_h_defs_dagStoreImpl_Delete
#print axioms tie_h_defs_dagStoreImpl_Rename
#print axioms tie_h_defs_dagStoreImpl_fileLocation
#print axioms tie_h_defs__exists
#print axioms tie_h_defs__writeFileAtomic
#print axioms tie_h_defs_dagStoreImpl_ensureDirExist
#print axioms tie_h_defs__checkExtension
#print axioms tie_h_defs_AddYamlExtension
#print axioms tie_h_defs__find
#print axioms tie_h_defs_dagStoreImpl_resolve
#print axioms tie_h_defs_client_CreateDAG
#print axioms tie_h_defs_client_Rename
#print axioms tie_h_defs_client_UpdateDAG
#print axioms tie_h_defs_client_DeleteDAG
#print axioms tie_h_rest_defs_persistence_local_dag_store_go
#print axioms tie_h_rest_defs_client_client_go
#print axioms tie_h_rest_defs_frontend_dag_handler_go

end BdModel.Tie.Defs
