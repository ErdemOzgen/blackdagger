import BdModel.Extracted.Load
import BdModel.Canon.Load
/- Tie obligations: what the extractor reads from /repo NOW equals what the model was written against. -/
namespace BdModel.Tie.Load

theorem tie_h_load_build : Extracted.Load.h_load_build = Canon.Load.h_load_build := rfl
theorem tie_h_load_buildSchedule : Extracted.Load.h_load_buildSchedule = Canon.Load.h_load_buildSchedule := rfl
theorem tie_h_load_buildSteps : Extracted.Load.h_load_buildSteps = Canon.Load.h_load_buildSteps := rfl
theorem tie_h_load_buildHandlers : Extracted.Load.h_load_buildHandlers = Canon.Load.h_load_buildHandlers := rfl
theorem tie_h_load_buildMiscs : Extracted.Load.h_load_buildMiscs = Canon.Load.h_load_buildMiscs := rfl
theorem tie_h_load_buildEnvs : Extracted.Load.h_load_buildEnvs = Canon.Load.h_load_buildEnvs := rfl
theorem tie_h_load_buildLogDir : Extracted.Load.h_load_buildLogDir = Canon.Load.h_load_buildLogDir := rfl
theorem tie_h_load_buildParams : Extracted.Load.h_load_buildParams = Canon.Load.h_load_buildParams := rfl
theorem tie_h_load_buildSMTPConfig : Extracted.Load.h_load_buildSMTPConfig = Canon.Load.h_load_buildSMTPConfig := rfl
theorem tie_h_load_buildStep : Extracted.Load.h_load_buildStep = Canon.Load.h_load_buildStep := rfl
theorem tie_h_load_buildConditions : Extracted.Load.h_load_buildConditions = Canon.Load.h_load_buildConditions := rfl
theorem tie_h_load_loadVariables : Extracted.Load.h_load_loadVariables = Canon.Load.h_load_loadVariables := rfl
theorem tie_h_load_parseCommand : Extracted.Load.h_load_parseCommand = Canon.Load.h_load_parseCommand := rfl
theorem tie_h_load_parseExecutor : Extracted.Load.h_load_parseExecutor = Canon.Load.h_load_parseExecutor := rfl
theorem tie_h_load_convertMap : Extracted.Load.h_load_convertMap = Canon.Load.h_load_convertMap := rfl
theorem tie_h_load_parseSubWorkflow : Extracted.Load.h_load_parseSubWorkflow = Canon.Load.h_load_parseSubWorkflow := rfl
theorem tie_h_load_substituteCommands : Extracted.Load.h_load_substituteCommands = Canon.Load.h_load_substituteCommands := rfl
theorem tie_h_load_parseScheduleMap : Extracted.Load.h_load_parseScheduleMap = Canon.Load.h_load_parseScheduleMap := rfl
theorem tie_h_load_parseSchedules : Extracted.Load.h_load_parseSchedules = Canon.Load.h_load_parseSchedules := rfl
theorem tie_h_load_parseFuncCall : Extracted.Load.h_load_parseFuncCall = Canon.Load.h_load_parseFuncCall := rfl
theorem tie_h_load_parseMiscs : Extracted.Load.h_load_parseMiscs = Canon.Load.h_load_parseMiscs := rfl
theorem tie_h_load_parseKeyValue : Extracted.Load.h_load_parseKeyValue = Canon.Load.h_load_parseKeyValue := rfl
theorem tie_h_load_parseParams : Extracted.Load.h_load_parseParams = Canon.Load.h_load_parseParams := rfl
theorem tie_h_load_parseParamValue : Extracted.Load.h_load_parseParamValue = Canon.Load.h_load_parseParamValue := rfl
theorem tie_h_load_assertStepDef : Extracted.Load.h_load_assertStepDef = Canon.Load.h_load_assertStepDef := rfl
theorem tie_h_load_assertFunctions : Extracted.Load.h_load_assertFunctions = Canon.Load.h_load_assertFunctions := rfl
theorem tie_h_load_decode : Extracted.Load.h_load_decode = Canon.Load.h_load_decode := rfl
theorem tie_h_load_unmarshalData : Extracted.Load.h_load_unmarshalData = Canon.Load.h_load_unmarshalData := rfl
theorem tie_h_load_loadYAML : Extracted.Load.h_load_loadYAML = Canon.Load.h_load_loadYAML := rfl
theorem tie_h_load_loadDAG : Extracted.Load.h_load_loadDAG = Canon.Load.h_load_loadDAG := rfl
theorem tie_h_load_Load : Extracted.Load.h_load_Load = Canon.Load.h_load_Load := rfl
theorem tie_h_load_LoadWithoutEval : Extracted.Load.h_load_LoadWithoutEval = Canon.Load.h_load_LoadWithoutEval := rfl
theorem tie_h_load_LoadMetadata : Extracted.Load.h_load_LoadMetadata = Canon.Load.h_load_LoadMetadata := rfl
theorem tie_h_load_LoadYAML : Extracted.Load.h_load_LoadYAML = Canon.Load.h_load_LoadYAML := rfl
theorem tie_h_load_storeUpdateSpec : Extracted.Load.h_load_storeUpdateSpec = Canon.Load.h_load_storeUpdateSpec := rfl
theorem tie_h_load_storeGetDetails : Extracted.Load.h_load_storeGetDetails = Canon.Load.h_load_storeGetDetails := rfl
theorem tie_h_load_storeGetMetadata : Extracted.Load.h_load_storeGetMetadata = Canon.Load.h_load_storeGetMetadata := rfl
theorem tie_h_load_storeList : Extracted.Load.h_load_storeList = Canon.Load.h_load_storeList := rfl
theorem tie_h_load_assertNoNullElements : Extracted.Load.h_load_assertNoNullElements = Canon.Load.h_load_assertNoNullElements := rfl
theorem tie_h_load_parseCron : Extracted.Load.h_load_parseCron = Canon.Load.h_load_parseCron := rfl
theorem tie_h_load_convertValue : Extracted.Load.h_load_convertValue = Canon.Load.h_load_convertValue := rfl
theorem tie_h_rest_load_dag_loader_go : Extracted.Load.h_rest_load_dag_loader_go = Canon.Load.h_rest_load_dag_loader_go := rfl
theorem tie_h_rest_load_dag_builder_go : Extracted.Load.h_rest_load_dag_builder_go = Canon.Load.h_rest_load_dag_builder_go := rfl
theorem tie_h_rest_load_dag_parser_go : Extracted.Load.h_rest_load_dag_parser_go = Canon.Load.h_rest_load_dag_parser_go := rfl
theorem tie_h_rest_load_dag_dag_go : Extracted.Load.h_rest_load_dag_dag_go = Canon.Load.h_rest_load_dag_dag_go := rfl
theorem tie_h_rest_load_dag_step_go : Extracted.Load.h_rest_load_dag_step_go = Canon.Load.h_rest_load_dag_step_go := rfl
theorem tie_h_rest_load_dag_condition_go : Extracted.Load.h_rest_load_dag_condition_go = Canon.Load.h_rest_load_dag_condition_go := rfl
theorem tie_h_rest_load_patternutil_patternutil_go : Extracted.Load.h_rest_load_patternutil_patternutil_go = Canon.Load.h_rest_load_patternutil_patternutil_go := rfl
theorem tie_h_rest_load_persistence_model_status_go : Extracted.Load.h_rest_load_persistence_model_status_go = Canon.Load.h_rest_load_persistence_model_status_go := rfl
theorem tie_h_rest_load_persistence_model_node_go : Extracted.Load.h_rest_load_persistence_model_node_go = Canon.Load.h_rest_load_persistence_model_node_go := rfl
theorem tie_h_rest_load_persistence_local_dag_store_go : Extracted.Load.h_rest_load_persistence_local_dag_store_go = Canon.Load.h_rest_load_persistence_local_dag_store_go := rfl
theorem tie_builderFields : Extracted.Load.builderFields = Canon.Load.builderFields := rfl
theorem tie_callEdges : Extracted.Load.callEdges = Canon.Load.callEdges := rfl
theorem tie_defStructs : Extracted.Load.defStructs = Canon.Load.defStructs := rfl
theorem tie_displayEdges : Extracted.Load.displayEdges = Canon.Load.displayEdges := rfl
theorem tie_displayFuncs : Extracted.Load.displayFuncs = Canon.Load.displayFuncs := rfl
theorem tie_displayLoaderCalls : Extracted.Load.displayLoaderCalls = Canon.Load.displayLoaderCalls := rfl
theorem tie_displaySites : Extracted.Load.displaySites = Canon.Load.displaySites := rfl
theorem tie_effectSites : Extracted.Load.effectSites = Canon.Load.effectSites := rfl
theorem tie_entryOpts : Extracted.Load.entryOpts = Canon.Load.entryOpts := rfl

#print axioms tie_h_load_build
#print axioms tie_h_load_buildSchedule
#print axioms tie_h_load_buildSteps
#print axioms tie_h_load_buildHandlers
#print axioms tie_h_load_buildMiscs
#print axioms tie_h_load_buildEnvs
#print axioms tie_h_load_buildLogDir
#print axioms tie_h_load_buildParams
#print axioms tie_h_load_buildSMTPConfig
#print axioms tie_h_load_buildStep
#print axioms tie_h_load_buildConditions
#print axioms tie_h_load_loadVariables
#print axioms tie_h_load_parseCommand
#print axioms tie_h_load_parseExecutor
#print axioms tie_h_load_convertMap
#print axioms tie_h_load_parseSubWorkflow
#print axioms tie_h_load_substituteCommands
#print axioms tie_h_load_parseScheduleMap
#print axioms tie_h_load_parseSchedules
#print axioms tie_h_load_parseFuncCall
#print axioms tie_h_load_parseMiscs
#print axioms tie_h_load_parseKeyValue
#print axioms tie_h_load_parseParams
#print axioms tie_h_load_parseParamValue
#print axioms tie_h_load_assertStepDef
#print axioms tie_h_load_assertFunctions
#print axioms tie_h_load_decode
#print axioms tie_h_load_unmarshalData
#print axioms tie_h_load_loadYAML
#print axioms tie_h_load_loadDAG
#print axioms tie_h_load_Load
#print axioms tie_h_load_LoadWithoutEval
#print axioms tie_h_load_LoadMetadata
#print axioms tie_h_load_LoadYAML
#print axioms tie_h_load_storeUpdateSpec
#print axioms tie_h_load_storeGetDetails
#print axioms tie_h_load_storeGetMetadata
#print axioms tie_h_load_storeList
#print axioms tie_h_load_assertNoNullElements
#print axioms tie_h_load_parseCron
#print axioms tie_h_load_convertValue
#print axioms tie_h_rest_load_dag_loader_go
#print axioms tie_h_rest_load_dag_builder_go
#print axioms tie_h_rest_load_dag_parser_go
#print axioms tie_h_rest_load_dag_dag_go
#print axioms tie_h_rest_load_dag_step_go
#print axioms tie_h_rest_load_dag_condition_go
#print axioms tie_h_rest_load_patternutil_patternutil_go
#print axioms tie_h_rest_load_persistence_model_status_go
#print axioms tie_h_rest_load_persistence_model_node_go
#print axioms tie_h_rest_load_persistence_local_dag_store_go
#print axioms tie_builderFields
#print axioms tie_callEdges
#print axioms tie_defStructs
#print axioms tie_displayEdges
#print axioms tie_displayFuncs
#print axioms tie_displayLoaderCalls
#print axioms tie_displaySites
#print axioms tie_effectSites
#print axioms tie_entryOpts

end BdModel.Tie.Load
