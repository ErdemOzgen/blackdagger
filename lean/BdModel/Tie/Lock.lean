import BdModel.Extracted.Lock
import BdModel.Canon.Lock
/- Tie obligations: what the extractor reads from /repo NOW equals what the model was written against. -/
namespace BdModel.Tie.Lock

theorem tie_h_lock_agent_Run : Extracted.Lock.h_lock_agent_Run = Canon.Lock.h_lock_agent_Run := rfl
theorem tie_h_lock_agent_setup : Extracted.Lock.h_lock_agent_setup = Canon.Lock.h_lock_agent_setup := rfl
theorem tie_h_lock_agent_checkPreconditions : Extracted.Lock.h_lock_agent_checkPreconditions = Canon.Lock.h_lock_agent_checkPreconditions := rfl
theorem tie_h_lock_agent_checkIsAlreadyRunning : Extracted.Lock.h_lock_agent_checkIsAlreadyRunning = Canon.Lock.h_lock_agent_checkIsAlreadyRunning := rfl
theorem tie_h_lock_agent_setupDatabase : Extracted.Lock.h_lock_agent_setupDatabase = Canon.Lock.h_lock_agent_setupDatabase := rfl
theorem tie_h_lock_agent_setupSocketServer : Extracted.Lock.h_lock_agent_setupSocketServer = Canon.Lock.h_lock_agent_setupSocketServer := rfl
theorem tie_h_lock_agent_HandleHTTP : Extracted.Lock.h_lock_agent_HandleHTTP = Canon.Lock.h_lock_agent_HandleHTTP := rfl
theorem tie_h_lock_sock_NewServer : Extracted.Lock.h_lock_sock_NewServer = Canon.Lock.h_lock_sock_NewServer := rfl
theorem tie_h_lock_sock_Serve : Extracted.Lock.h_lock_sock_Serve = Canon.Lock.h_lock_sock_Serve := rfl
theorem tie_h_lock_sock_Shutdown : Extracted.Lock.h_lock_sock_Shutdown = Canon.Lock.h_lock_sock_Shutdown := rfl
theorem tie_h_lock_sock_Request : Extracted.Lock.h_lock_sock_Request = Canon.Lock.h_lock_sock_Request := rfl
theorem tie_h_lock_client_GetCurrentStatus : Extracted.Lock.h_lock_client_GetCurrentStatus = Canon.Lock.h_lock_client_GetCurrentStatus := rfl
theorem tie_h_lock_dag_SockAddr : Extracted.Lock.h_lock_dag_SockAddr = Canon.Lock.h_lock_dag_SockAddr := rfl
theorem tie_h_lock_agent_dryRun : Extracted.Lock.h_lock_agent_dryRun = Canon.Lock.h_lock_agent_dryRun := rfl
theorem tie_h_rest_lock_agent_agent_go : Extracted.Lock.h_rest_lock_agent_agent_go = Canon.Lock.h_rest_lock_agent_agent_go := rfl
theorem tie_h_rest_lock_sock_server_go : Extracted.Lock.h_rest_lock_sock_server_go = Canon.Lock.h_rest_lock_sock_server_go := rfl
theorem tie_h_rest_lock_sock_client_go : Extracted.Lock.h_rest_lock_sock_client_go = Canon.Lock.h_rest_lock_sock_client_go := rfl

#print axioms tie_h_lock_agent_Run
#print axioms tie_h_lock_agent_setup
#print axioms tie_h_lock_agent_checkPreconditions
#print axioms tie_h_lock_agent_checkIsAlreadyRunning
#print axioms tie_h_lock_agent_setupDatabase
#print axioms tie_h_lock_agent_setupSocketServer
#print axioms tie_h_lock_agent_HandleHTTP
#print axioms tie_h_lock_sock_NewServer
#print axioms tie_h_lock_sock_Serve
#print axioms tie_h_lock_sock_Shutdown
#print axioms tie_h_lock_sock_Request
#print axioms tie_h_lock_client_GetCurrentStatus
#print axioms tie_h_lock_dag_SockAddr
#print axioms tie_h_lock_agent_dryRun
#print axioms tie_h_rest_lock_agent_agent_go
#print axioms tie_h_rest_lock_sock_server_go
#print axioms tie_h_rest_lock_sock_client_go

end BdModel.Tie.Lock
