import BdModel.Extracted.Hist
import BdModel.Canon.Hist
/- Tie obligations: what the extractor reads from /repo NOW equals what the model was written against. -/
namespace BdModel.Tie.Hist

theorem tie_h_hist_Update : Extracted.Hist.h_hist_Update = Canon.Hist.h_hist_Update := rfl
theorem tie_h_hist_Open : Extracted.Hist.h_hist_Open = Canon.Hist.h_hist_Open := rfl
theorem tie_h_hist_Write : Extracted.Hist.h_hist_Write = Canon.Hist.h_hist_Write := rfl
theorem tie_h_hist_Close : Extracted.Hist.h_hist_Close = Canon.Hist.h_hist_Close := rfl
theorem tie_h_hist_newWriter : Extracted.Hist.h_hist_newWriter = Canon.Hist.h_hist_newWriter := rfl
theorem tie_h_hist_ReadStatusRecent : Extracted.Hist.h_hist_ReadStatusRecent = Canon.Hist.h_hist_ReadStatusRecent := rfl
theorem tie_h_hist_ReadStatusToday : Extracted.Hist.h_hist_ReadStatusToday = Canon.Hist.h_hist_ReadStatusToday := rfl
theorem tie_h_hist_FindByRequestID : Extracted.Hist.h_hist_FindByRequestID = Canon.Hist.h_hist_FindByRequestID := rfl
theorem tie_h_hist_RemoveAll : Extracted.Hist.h_hist_RemoveAll = Canon.Hist.h_hist_RemoveAll := rfl
theorem tie_h_hist_RemoveOld : Extracted.Hist.h_hist_RemoveOld = Canon.Hist.h_hist_RemoveOld := rfl
theorem tie_h_hist_Compact : Extracted.Hist.h_hist_Compact = Canon.Hist.h_hist_Compact := rfl
theorem tie_h_hist_Rename : Extracted.Hist.h_hist_Rename = Canon.Hist.h_hist_Rename := rfl
theorem tie_h_hist_getDirectory : Extracted.Hist.h_hist_getDirectory = Canon.Hist.h_hist_getDirectory := rfl
theorem tie_h_hist_newFile : Extracted.Hist.h_hist_newFile = Canon.Hist.h_hist_newFile := rfl
theorem tie_h_hist_latestToday : Extracted.Hist.h_hist_latestToday = Canon.Hist.h_hist_latestToday := rfl
theorem tie_h_hist_latest : Extracted.Hist.h_hist_latest = Canon.Hist.h_hist_latest := rfl
theorem tie_h_hist_globPattern : Extracted.Hist.h_hist_globPattern = Canon.Hist.h_hist_globPattern := rfl
theorem tie_h_hist_escapeGlob : Extracted.Hist.h_hist_escapeGlob = Canon.Hist.h_hist_escapeGlob := rfl
theorem tie_h_hist_prefixWithDirectory : Extracted.Hist.h_hist_prefixWithDirectory = Canon.Hist.h_hist_prefixWithDirectory := rfl
theorem tie_h_hist_ParseFile : Extracted.Hist.h_hist_ParseFile = Canon.Hist.h_hist_ParseFile := rfl
theorem tie_h_hist_filterLatest : Extracted.Hist.h_hist_filterLatest = Canon.Hist.h_hist_filterLatest := rfl
theorem tie_h_hist_timestamp : Extracted.Hist.h_hist_timestamp = Canon.Hist.h_hist_timestamp := rfl
theorem tie_h_hist_readLineFrom : Extracted.Hist.h_hist_readLineFrom = Canon.Hist.h_hist_readLineFrom := rfl
theorem tie_h_hist_prefix : Extracted.Hist.h_hist_prefix = Canon.Hist.h_hist_prefix := rfl
theorem tie_h_hist_writer_open : Extracted.Hist.h_hist_writer_open = Canon.Hist.h_hist_writer_open := rfl
theorem tie_h_hist_writer_write : Extracted.Hist.h_hist_writer_write = Canon.Hist.h_hist_writer_write := rfl
theorem tie_h_hist_writer_close : Extracted.Hist.h_hist_writer_close = Canon.Hist.h_hist_writer_close := rfl
theorem tie_h_hist_OpenOrCreateFile : Extracted.Hist.h_hist_OpenOrCreateFile = Canon.Hist.h_hist_OpenOrCreateFile := rfl
theorem tie_h_hist_openFile : Extracted.Hist.h_hist_openFile = Canon.Hist.h_hist_openFile := rfl
theorem tie_h_hist_createFile : Extracted.Hist.h_hist_createFile = Canon.Hist.h_hist_createFile := rfl
theorem tie_h_fcache_Cache_LoadLatest : Extracted.Hist.h_fcache_Cache_LoadLatest = Canon.Hist.h_fcache_Cache_LoadLatest := rfl
theorem tie_h_fcache_Cache_IsStale : Extracted.Hist.h_fcache_Cache_IsStale = Canon.Hist.h_fcache_Cache_IsStale := rfl
theorem tie_h_fcache_Cache_Store : Extracted.Hist.h_fcache_Cache_Store = Canon.Hist.h_fcache_Cache_Store := rfl
theorem tie_h_fcache_Cache_Entry : Extracted.Hist.h_fcache_Cache_Entry = Canon.Hist.h_fcache_Cache_Entry := rfl
theorem tie_h_fcache_Cache_Invalidate : Extracted.Hist.h_fcache_Cache_Invalidate = Canon.Hist.h_fcache_Cache_Invalidate := rfl
theorem tie_h_fcache_Cache_Load : Extracted.Hist.h_fcache_Cache_Load = Canon.Hist.h_fcache_Cache_Load := rfl
theorem tie_h_fcache_Cache_evict : Extracted.Hist.h_fcache_Cache_evict = Canon.Hist.h_fcache_Cache_evict := rfl
theorem tie_h_fcache__newEntry : Extracted.Hist.h_fcache__newEntry = Canon.Hist.h_fcache__newEntry := rfl
theorem tie_h_rest_hist_persistence_jsondb_jsondb_go : Extracted.Hist.h_rest_hist_persistence_jsondb_jsondb_go = Canon.Hist.h_rest_hist_persistence_jsondb_jsondb_go := rfl
theorem tie_h_rest_hist_persistence_jsondb_writer_go : Extracted.Hist.h_rest_hist_persistence_jsondb_writer_go = Canon.Hist.h_rest_hist_persistence_jsondb_writer_go := rfl
theorem tie_h_rest_hist_persistence_filecache_filecache_go : Extracted.Hist.h_rest_hist_persistence_filecache_filecache_go = Canon.Hist.h_rest_hist_persistence_filecache_filecache_go := rfl
theorem tie_h_rest_hist_persistence_model_status_go : Extracted.Hist.h_rest_hist_persistence_model_status_go = Canon.Hist.h_rest_hist_persistence_model_status_go := rfl
theorem tie_h_rest_hist_persistence_model_node_go : Extracted.Hist.h_rest_hist_persistence_model_node_go = Canon.Hist.h_rest_hist_persistence_model_node_go := rfl
theorem tie_dateFormat : Extracted.Hist.dateFormat = Canon.Hist.dateFormat := rfl
theorem tie_dateTimeFormat : Extracted.Hist.dateTimeFormat = Canon.Hist.dateTimeFormat := rfl
theorem tie_extDat : Extracted.Hist.extDat = Canon.Hist.extDat := rfl
theorem tie_globEscaper : Extracted.Hist.globEscaper = Canon.Hist.globEscaper := rfl
theorem tie_rTimestamp : Extracted.Hist.rTimestamp = Canon.Hist.rTimestamp := rfl
theorem tie_requestIDLenSafe : Extracted.Hist.requestIDLenSafe = Canon.Hist.requestIDLenSafe := rfl

#print axioms tie_h_hist_Update
#print axioms tie_h_hist_Open
#print axioms tie_h_hist_Write
#print axioms tie_h_hist_Close
#print axioms tie_h_hist_newWriter
#print axioms tie_h_hist_ReadStatusRecent
#print axioms tie_h_hist_ReadStatusToday
#print axioms tie_h_hist_FindByRequestID
#print axioms tie_h_hist_RemoveAll
#print axioms tie_h_hist_RemoveOld
#print axioms tie_h_hist_Compact
#print axioms tie_h_hist_Rename
#print axioms tie_h_hist_getDirectory
#print axioms tie_h_hist_newFile
#print axioms tie_h_hist_latestToday
#print axioms tie_h_hist_latest
#print axioms tie_h_hist_globPattern
#print axioms tie_h_hist_escapeGlob
#print axioms tie_h_hist_prefixWithDirectory
#print axioms tie_h_hist_ParseFile
#print axioms tie_h_hist_filterLatest
#print axioms tie_h_hist_timestamp
#print axioms tie_h_hist_readLineFrom
#print axioms tie_h_hist_prefix
#print axioms tie_h_hist_writer_open
#print axioms tie_h_hist_writer_write
#print axioms tie_h_hist_writer_close
#print axioms tie_h_hist_OpenOrCreateFile
#print axioms tie_h_hist_openFile
#print axioms tie_h_hist_createFile
#print axioms tie_h_fcache_Cache_LoadLatest
#print axioms tie_h_fcache_Cache_IsStale
#print axioms tie_h_fcache_Cache_Store
#print axioms tie_h_fcache_Cache_Entry
#print axioms tie_h_fcache_Cache_Invalidate
#print axioms tie_h_fcache_Cache_Load
#print axioms tie_h_fcache_Cache_evict
#print axioms tie_h_fcache__newEntry
#print axioms tie_h_rest_hist_persistence_jsondb_jsondb_go
#print axioms tie_h_rest_hist_persistence_jsondb_writer_go
#print axioms tie_h_rest_hist_persistence_filecache_filecache_go
#print axioms tie_h_rest_hist_persistence_model_status_go
#print axioms tie_h_rest_hist_persistence_model_node_go
#print axioms tie_dateFormat
#print axioms tie_dateTimeFormat
#print axioms tie_extDat
#print axioms tie_globEscaper
#print axioms tie_rTimestamp
#print axioms tie_requestIDLenSafe

end BdModel.Tie.Hist
