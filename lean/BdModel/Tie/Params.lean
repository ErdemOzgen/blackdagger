import BdModel.Extracted.Params
import BdModel.Canon.Params
/- Tie obligations: what the extractor reads from /repo NOW equals what the model was written against. -/
namespace BdModel.Tie.Params

theorem tie_h_params_parseParamValue : Extracted.Params.h_params_parseParamValue = Canon.Params.h_params_parseParamValue := rfl
theorem tie_h_params_stringifyParam : Extracted.Params.h_params_stringifyParam = Canon.Params.h_params_stringifyParam := rfl
theorem tie_h_params_parseParams : Extracted.Params.h_params_parseParams = Canon.Params.h_params_parseParams := rfl
theorem tie_h_params_buildParams : Extracted.Params.h_params_buildParams = Canon.Params.h_params_buildParams := rfl
theorem tie_h_params_modelParams : Extracted.Params.h_params_modelParams = Canon.Params.h_params_modelParams := rfl
theorem tie_h_params_removeQuotes : Extracted.Params.h_params_removeQuotes = Canon.Params.h_params_removeQuotes := rfl
theorem tie_h_params_escapeArg : Extracted.Params.h_params_escapeArg = Canon.Params.h_params_escapeArg := rfl
theorem tie_h_params_clientStart : Extracted.Params.h_params_clientStart = Canon.Params.h_params_clientStart := rfl
theorem tie_h_params_nodeExecute : Extracted.Params.h_params_nodeExecute = Canon.Params.h_params_nodeExecute := rfl
theorem tie_h_params_newCommand : Extracted.Params.h_params_newCommand = Canon.Params.h_params_newCommand := rfl
theorem tie_h_params_NewExecutionGraphForRetry : Extracted.Params.h_params_NewExecutionGraphForRetry = Canon.Params.h_params_NewExecutionGraphForRetry := rfl
theorem tie_h_params_nodeSetupExec : Extracted.Params.h_params_nodeSetupExec = Canon.Params.h_params_nodeSetupExec := rfl
theorem tie_h_rest_params_dag_parser_go : Extracted.Params.h_rest_params_dag_parser_go = Canon.Params.h_rest_params_dag_parser_go := rfl
theorem tie_h_rest_params_persistence_model_status_go : Extracted.Params.h_rest_params_persistence_model_status_go = Canon.Params.h_rest_params_persistence_model_status_go := rfl
theorem tie_h_rest_params_cmd_start_go : Extracted.Params.h_rest_params_cmd_start_go = Canon.Params.h_rest_params_cmd_start_go := rfl
theorem tie_h_rest_params_cmd_retry_go : Extracted.Params.h_rest_params_cmd_retry_go = Canon.Params.h_rest_params_cmd_retry_go := rfl
theorem tie_h_rest_params_cmd_restart_go : Extracted.Params.h_rest_params_cmd_restart_go = Canon.Params.h_rest_params_cmd_restart_go := rfl
theorem tie_h_rest_params_dag_scheduler_node_go : Extracted.Params.h_rest_params_dag_scheduler_node_go = Canon.Params.h_rest_params_dag_scheduler_node_go := rfl

#print axioms tie_h_params_parseParamValue
#print axioms tie_h_params_stringifyParam
#print axioms tie_h_params_parseParams
#print axioms tie_h_params_buildParams
#print axioms tie_h_params_modelParams
#print axioms tie_h_params_removeQuotes
#print axioms tie_h_params_escapeArg
#print axioms tie_h_params_clientStart
#print axioms tie_h_params_nodeExecute
#print axioms tie_h_params_newCommand
#print axioms tie_h_params_NewExecutionGraphForRetry
#print axioms tie_h_params_nodeSetupExec
#print axioms tie_h_rest_params_dag_parser_go
#print axioms tie_h_rest_params_persistence_model_status_go
#print axioms tie_h_rest_params_cmd_start_go
#print axioms tie_h_rest_params_cmd_retry_go
#print axioms tie_h_rest_params_cmd_restart_go
#print axioms tie_h_rest_params_dag_scheduler_node_go

end BdModel.Tie.Params
