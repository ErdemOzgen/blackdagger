import BdModel.Extracted.Notify
import BdModel.Canon.Notify
/- Tie obligations: what the extractor reads from /repo NOW equals what the model was written against. -/
namespace BdModel.Tie.Notify

theorem tie_h_rest_notify_internal_scheduler_filenotify_filenotify_go : Extracted.Notify.h_rest_notify_internal_scheduler_filenotify_filenotify_go = Canon.Notify.h_rest_notify_internal_scheduler_filenotify_filenotify_go := rfl
theorem tie_h_rest_notify_internal_scheduler_filenotify_fsnotify_go : Extracted.Notify.h_rest_notify_internal_scheduler_filenotify_fsnotify_go = Canon.Notify.h_rest_notify_internal_scheduler_filenotify_fsnotify_go := rfl
theorem tie_h_rest_notify_internal_scheduler_filenotify_poller_go : Extracted.Notify.h_rest_notify_internal_scheduler_filenotify_poller_go = Canon.Notify.h_rest_notify_internal_scheduler_filenotify_poller_go := rfl

#print axioms tie_h_rest_notify_internal_scheduler_filenotify_filenotify_go
#print axioms tie_h_rest_notify_internal_scheduler_filenotify_fsnotify_go
#print axioms tie_h_rest_notify_internal_scheduler_filenotify_poller_go

end BdModel.Tie.Notify
