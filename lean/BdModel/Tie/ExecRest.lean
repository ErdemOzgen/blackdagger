import BdModel.Extracted.ExecRest
import BdModel.Canon.ExecRest
/- Tie obligations: what the extractor reads from /repo NOW equals what the model was written against. -/
namespace BdModel.Tie.ExecRest

theorem tie_h_rest_execrest_internal_dag_executor_docker_go : Extracted.ExecRest.h_rest_execrest_internal_dag_executor_docker_go = Canon.ExecRest.h_rest_execrest_internal_dag_executor_docker_go := rfl
theorem tie_h_rest_execrest_internal_dag_executor_http_go : Extracted.ExecRest.h_rest_execrest_internal_dag_executor_http_go = Canon.ExecRest.h_rest_execrest_internal_dag_executor_http_go := rfl
theorem tie_h_rest_execrest_internal_dag_executor_jq_go : Extracted.ExecRest.h_rest_execrest_internal_dag_executor_jq_go = Canon.ExecRest.h_rest_execrest_internal_dag_executor_jq_go := rfl
theorem tie_h_rest_execrest_internal_dag_executor_mail_go : Extracted.ExecRest.h_rest_execrest_internal_dag_executor_mail_go = Canon.ExecRest.h_rest_execrest_internal_dag_executor_mail_go := rfl
theorem tie_h_rest_execrest_internal_dag_executor_ssh_go : Extracted.ExecRest.h_rest_execrest_internal_dag_executor_ssh_go = Canon.ExecRest.h_rest_execrest_internal_dag_executor_ssh_go := rfl
theorem tie_h_rest_execrest_internal_dag_executor_sub_go : Extracted.ExecRest.h_rest_execrest_internal_dag_executor_sub_go = Canon.ExecRest.h_rest_execrest_internal_dag_executor_sub_go := rfl

#print axioms tie_h_rest_execrest_internal_dag_executor_docker_go
#print axioms tie_h_rest_execrest_internal_dag_executor_http_go
#print axioms tie_h_rest_execrest_internal_dag_executor_jq_go
#print axioms tie_h_rest_execrest_internal_dag_executor_mail_go
#print axioms tie_h_rest_execrest_internal_dag_executor_ssh_go
#print axioms tie_h_rest_execrest_internal_dag_executor_sub_go

end BdModel.Tie.ExecRest
