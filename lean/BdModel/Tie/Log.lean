import BdModel.Extracted.Log
import BdModel.Canon.Log
/- Tie obligations: what the extractor reads from /repo NOW equals what the model was written against. -/
namespace BdModel.Tie.Log

theorem tie_h_log_setup : Extracted.Log.h_log_setup = Canon.Log.h_log_setup := rfl
theorem tie_h_log_setupLog : Extracted.Log.h_log_setupLog = Canon.Log.h_log_setupLog := rfl
theorem tie_h_log_setupStdout : Extracted.Log.h_log_setupStdout = Canon.Log.h_log_setupStdout := rfl
theorem tie_h_log_setupStderr : Extracted.Log.h_log_setupStderr = Canon.Log.h_log_setupStderr := rfl
theorem tie_h_log_setupScript : Extracted.Log.h_log_setupScript = Canon.Log.h_log_setupScript := rfl
theorem tie_h_log_setupExec : Extracted.Log.h_log_setupExec = Canon.Log.h_log_setupExec := rfl
theorem tie_h_log_teardown : Extracted.Log.h_log_teardown = Canon.Log.h_log_teardown := rfl
theorem tie_h_log_Execute : Extracted.Log.h_log_Execute = Canon.Log.h_log_Execute := rfl
theorem tie_h_log_OpenOrCreateFile : Extracted.Log.h_log_OpenOrCreateFile = Canon.Log.h_log_OpenOrCreateFile := rfl
theorem tie_h_log_openFile : Extracted.Log.h_log_openFile = Canon.Log.h_log_openFile := rfl
theorem tie_h_log_cmdSetStdout : Extracted.Log.h_log_cmdSetStdout = Canon.Log.h_log_cmdSetStdout := rfl
theorem tie_h_log_cmdSetStderr : Extracted.Log.h_log_cmdSetStderr = Canon.Log.h_log_cmdSetStderr := rfl
theorem tie_h_log_cmdRun : Extracted.Log.h_log_cmdRun = Canon.Log.h_log_cmdRun := rfl
theorem tie_h_rest_log_dag_scheduler_node_go : Extracted.Log.h_rest_log_dag_scheduler_node_go = Canon.Log.h_rest_log_dag_scheduler_node_go := rfl
theorem tie_h_rest_log_dag_executor_command_go : Extracted.Log.h_rest_log_dag_executor_command_go = Canon.Log.h_rest_log_dag_executor_command_go := rfl
theorem tie_h_rest_log_util_utils_go : Extracted.Log.h_rest_log_util_utils_go = Canon.Log.h_rest_log_util_utils_go := rfl

#print axioms tie_h_log_setup
#print axioms tie_h_log_setupLog
#print axioms tie_h_log_setupStdout
#print axioms tie_h_log_setupStderr
#print axioms tie_h_log_setupScript
#print axioms tie_h_log_setupExec
#print axioms tie_h_log_teardown
#print axioms tie_h_log_Execute
#print axioms tie_h_log_OpenOrCreateFile
#print axioms tie_h_log_openFile
#print axioms tie_h_log_cmdSetStdout
#print axioms tie_h_log_cmdSetStderr
#print axioms tie_h_log_cmdRun
#print axioms tie_h_rest_log_dag_scheduler_node_go
#print axioms tie_h_rest_log_dag_executor_command_go
#print axioms tie_h_rest_log_util_utils_go

end BdModel.Tie.Log
