import BdModel.Extracted.Api
import BdModel.Canon.Api
/- Tie obligations: what the extractor reads from /repo NOW equals what the model was written against. -/
namespace BdModel.Tie.Api

theorem tie_h_api_handler_postAction : Extracted.Api.h_api_handler_postAction = Canon.Api.h_api_handler_postAction := rfl
theorem tie_h_api_handler_processUpdateStatus : Extracted.Api.h_api_handler_processUpdateStatus = Canon.Api.h_api_handler_processUpdateStatus := rfl
theorem tie_h_api_client_GetStatus : Extracted.Api.h_api_client_GetStatus = Canon.Api.h_api_client_GetStatus := rfl
theorem tie_h_api_client_GetLatestStatus : Extracted.Api.h_api_client_GetLatestStatus = Canon.Api.h_api_client_GetLatestStatus := rfl
theorem tie_h_api_client_currentStatus : Extracted.Api.h_api_client_currentStatus = Canon.Api.h_api_client_currentStatus := rfl
theorem tie_h_api_client_GetStatusByRequestID : Extracted.Api.h_api_client_GetStatusByRequestID = Canon.Api.h_api_client_GetStatusByRequestID := rfl
theorem tie_h_api_client_StartAsync : Extracted.Api.h_api_client_StartAsync = Canon.Api.h_api_client_StartAsync := rfl
theorem tie_h_api_client_Start : Extracted.Api.h_api_client_Start = Canon.Api.h_api_client_Start := rfl
theorem tie_h_api_client_Stop : Extracted.Api.h_api_client_Stop = Canon.Api.h_api_client_Stop := rfl
theorem tie_h_api_client_Retry : Extracted.Api.h_api_client_Retry = Canon.Api.h_api_client_Retry := rfl
theorem tie_h_api_client_UpdateStatus : Extracted.Api.h_api_client_UpdateStatus = Canon.Api.h_api_client_UpdateStatus := rfl
theorem tie_h_api_client_ToggleSuspend : Extracted.Api.h_api_client_ToggleSuspend = Canon.Api.h_api_client_ToggleSuspend := rfl
theorem tie_h_api_client_UpdateDAG : Extracted.Api.h_api_client_UpdateDAG = Canon.Api.h_api_client_UpdateDAG := rfl
theorem tie_h_api_client_Rename : Extracted.Api.h_api_client_Rename = Canon.Api.h_api_client_Rename := rfl
theorem tie_h_api_client_escapeArg : Extracted.Api.h_api_client_escapeArg = Canon.Api.h_api_client_escapeArg := rfl
theorem tie_h_api_model_CorrectRunningStatus : Extracted.Api.h_api_model_CorrectRunningStatus = Canon.Api.h_api_model_CorrectRunningStatus := rfl
theorem tie_h_api_jsondb_Update : Extracted.Api.h_api_jsondb_Update = Canon.Api.h_api_jsondb_Update := rfl
theorem tie_h_api_cmd_removeQuotes : Extracted.Api.h_api_cmd_removeQuotes = Canon.Api.h_api_cmd_removeQuotes := rfl
theorem tie_h_api_dagstore_Rename : Extracted.Api.h_api_dagstore_Rename = Canon.Api.h_api_dagstore_Rename := rfl
theorem tie_h_api_dagstore_UpdateSpec : Extracted.Api.h_api_dagstore_UpdateSpec = Canon.Api.h_api_dagstore_UpdateSpec := rfl
theorem tie_h_api_flagstore_ToggleSuspend : Extracted.Api.h_api_flagstore_ToggleSuspend = Canon.Api.h_api_flagstore_ToggleSuspend := rfl
theorem tie_h_api_jsondb_FindByRequestID : Extracted.Api.h_api_jsondb_FindByRequestID = Canon.Api.h_api_jsondb_FindByRequestID := rfl
theorem tie_h_rest_api_frontend_dag_handler_go : Extracted.Api.h_rest_api_frontend_dag_handler_go = Canon.Api.h_rest_api_frontend_dag_handler_go := rfl
theorem tie_h_rest_api_frontend_dag_convert_go : Extracted.Api.h_rest_api_frontend_dag_convert_go = Canon.Api.h_rest_api_frontend_dag_convert_go := rfl
theorem tie_h_rest_api_client_client_go : Extracted.Api.h_rest_api_client_client_go = Canon.Api.h_rest_api_client_client_go := rfl
theorem tie_h_rest_api_cmd_start_go : Extracted.Api.h_rest_api_cmd_start_go = Canon.Api.h_rest_api_cmd_start_go := rfl
theorem tie_h_rest_api_persistence_model_status_go : Extracted.Api.h_rest_api_persistence_model_status_go = Canon.Api.h_rest_api_persistence_model_status_go := rfl

#print axioms tie_h_api_handler_postAction
#print axioms tie_h_api_handler_processUpdateStatus
#print axioms tie_h_api_client_GetStatus
#print axioms tie_h_api_client_GetLatestStatus
#print axioms tie_h_api_client_currentStatus
#print axioms tie_h_api_client_GetStatusByRequestID
#print axioms tie_h_api_client_StartAsync
#print axioms tie_h_api_client_Start
#print axioms tie_h_api_client_Stop
#print axioms tie_h_api_client_Retry
#print axioms tie_h_api_client_UpdateStatus
#print axioms tie_h_api_client_ToggleSuspend
#print axioms tie_h_api_client_UpdateDAG
#print axioms tie_h_api_client_Rename
#print axioms tie_h_api_client_escapeArg
#print axioms tie_h_api_model_CorrectRunningStatus
#print axioms tie_h_api_jsondb_Update
#print axioms tie_h_api_cmd_removeQuotes
#print axioms tie_h_api_dagstore_Rename
#print axioms tie_h_api_dagstore_UpdateSpec
#print axioms tie_h_api_flagstore_ToggleSuspend
#print axioms tie_h_api_jsondb_FindByRequestID
#print axioms tie_h_rest_api_frontend_dag_handler_go
#print axioms tie_h_rest_api_frontend_dag_convert_go
#print axioms tie_h_rest_api_client_client_go
#print axioms tie_h_rest_api_cmd_start_go
#print axioms tie_h_rest_api_persistence_model_status_go

end BdModel.Tie.Api
