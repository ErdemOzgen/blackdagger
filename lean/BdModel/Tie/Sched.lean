import BdModel.Extracted.Sched
import BdModel.Canon.Sched
/- Tie obligations: what the extractor reads from /repo NOW equals what the model was written against. -/
namespace BdModel.Tie.Sched

theorem tie_h_sched_Schedule : Extracted.Sched.h_sched_Schedule = Canon.Sched.h_sched_Schedule := rfl
theorem tie_h_sched_isReady : Extracted.Sched.h_sched_isReady = Canon.Sched.h_sched_isReady := rfl
theorem tie_h_sched_Status : Extracted.Sched.h_sched_Status = Canon.Sched.h_sched_Status := rfl
theorem tie_h_sched_Signal : Extracted.Sched.h_sched_Signal = Canon.Sched.h_sched_Signal := rfl
theorem tie_h_sched_Cancel : Extracted.Sched.h_sched_Cancel = Canon.Sched.h_sched_Cancel := rfl
theorem tie_h_sched_runHandlerNode : Extracted.Sched.h_sched_runHandlerNode = Canon.Sched.h_sched_runHandlerNode := rfl
theorem tie_h_sched_setupNode : Extracted.Sched.h_sched_setupNode = Canon.Sched.h_sched_setupNode := rfl
theorem tie_h_sched_teardownNode : Extracted.Sched.h_sched_teardownNode = Canon.Sched.h_sched_teardownNode := rfl
theorem tie_h_sched_execNode : Extracted.Sched.h_sched_execNode = Canon.Sched.h_sched_execNode := rfl
theorem tie_h_sched_isFinished : Extracted.Sched.h_sched_isFinished = Canon.Sched.h_sched_isFinished := rfl
theorem tie_h_sched_isSucceed : Extracted.Sched.h_sched_isSucceed = Canon.Sched.h_sched_isSucceed := rfl
theorem tie_h_sched_runningCount : Extracted.Sched.h_sched_runningCount = Canon.Sched.h_sched_runningCount := rfl
theorem tie_h_sched_isTimeout : Extracted.Sched.h_sched_isTimeout = Canon.Sched.h_sched_isTimeout := rfl
theorem tie_h_sched_isCanceled : Extracted.Sched.h_sched_isCanceled = Canon.Sched.h_sched_isCanceled := rfl
theorem tie_h_sched_setCanceled : Extracted.Sched.h_sched_setCanceled = Canon.Sched.h_sched_setCanceled := rfl
theorem tie_h_sched_setup : Extracted.Sched.h_sched_setup = Canon.Sched.h_sched_setup := rfl
theorem tie_h_node_signal : Extracted.Sched.h_node_signal = Canon.Sched.h_node_signal := rfl
theorem tie_h_node_cancel : Extracted.Sched.h_node_cancel = Canon.Sched.h_node_cancel := rfl
theorem tie_h_node_setErr : Extracted.Sched.h_node_setErr = Canon.Sched.h_node_setErr := rfl
theorem tie_h_node_setStatus : Extracted.Sched.h_node_setStatus = Canon.Sched.h_node_setStatus := rfl
theorem tie_h_cond_Condition_eval : Extracted.Sched.h_cond_Condition_eval = Canon.Sched.h_cond_Condition_eval := rfl
theorem tie_h_cond_evalCondition : Extracted.Sched.h_cond_evalCondition = Canon.Sched.h_cond_evalCondition := rfl
theorem tie_h_cond_EvalConditions : Extracted.Sched.h_cond_EvalConditions = Canon.Sched.h_cond_EvalConditions := rfl
theorem tie_h_node_finish : Extracted.Sched.h_node_finish = Canon.Sched.h_node_finish := rfl
theorem tie_h_node_State : Extracted.Sched.h_node_State = Canon.Sched.h_node_State := rfl
theorem tie_h_node_SetError : Extracted.Sched.h_node_SetError = Canon.Sched.h_node_SetError := rfl
theorem tie_h_node_getRetryCount : Extracted.Sched.h_node_getRetryCount = Canon.Sched.h_node_getRetryCount := rfl
theorem tie_h_node_setRetriedAt : Extracted.Sched.h_node_setRetriedAt = Canon.Sched.h_node_setRetriedAt := rfl
theorem tie_h_node_getDoneCount : Extracted.Sched.h_node_getDoneCount = Canon.Sched.h_node_getDoneCount := rfl
theorem tie_h_node_clearState : Extracted.Sched.h_node_clearState = Canon.Sched.h_node_clearState := rfl
theorem tie_h_node_incRetryCount : Extracted.Sched.h_node_incRetryCount = Canon.Sched.h_node_incRetryCount := rfl
theorem tie_h_node_incDoneCount : Extracted.Sched.h_node_incDoneCount = Canon.Sched.h_node_incDoneCount := rfl
theorem tie_h_node_setCmdRunning : Extracted.Sched.h_node_setCmdRunning = Canon.Sched.h_node_setCmdRunning := rfl
theorem tie_h_node_isCmdRunning : Extracted.Sched.h_node_isCmdRunning = Canon.Sched.h_node_isCmdRunning := rfl
theorem tie_h_node_init : Extracted.Sched.h_node_init = Canon.Sched.h_node_init := rfl
theorem tie_h_graph_IsRunning : Extracted.Sched.h_graph_IsRunning = Canon.Sched.h_graph_IsRunning := rfl
theorem tie_h_rest_sched_dag_scheduler_scheduler_go : Extracted.Sched.h_rest_sched_dag_scheduler_scheduler_go = Canon.Sched.h_rest_sched_dag_scheduler_scheduler_go := rfl
theorem tie_h_rest_sched_dag_scheduler_node_go : Extracted.Sched.h_rest_sched_dag_scheduler_node_go = Canon.Sched.h_rest_sched_dag_scheduler_node_go := rfl
theorem tie_h_rest_sched_dag_scheduler_graph_go : Extracted.Sched.h_rest_sched_dag_scheduler_graph_go = Canon.Sched.h_rest_sched_dag_scheduler_graph_go := rfl
theorem tie_h_rest_sched_dag_condition_go : Extracted.Sched.h_rest_sched_dag_condition_go = Canon.Sched.h_rest_sched_dag_condition_go := rfl
theorem tie_h_rest_sched_patternutil_patternutil_go : Extracted.Sched.h_rest_sched_patternutil_patternutil_go = Canon.Sched.h_rest_sched_patternutil_patternutil_go := rfl
theorem tie_h_rest_sched_dag_executor_executor_go : Extracted.Sched.h_rest_sched_dag_executor_executor_go = Canon.Sched.h_rest_sched_dag_executor_executor_go := rfl
theorem tie_h_rest_sched_dag_executor_command_go : Extracted.Sched.h_rest_sched_dag_executor_command_go = Canon.Sched.h_rest_sched_dag_executor_command_go := rfl
theorem tie_dryGuards : Extracted.Sched.dryGuards = Canon.Sched.dryGuards := rfl
theorem tie_errSwitch : Extracted.Sched.errSwitch = Canon.Sched.errSwitch := rfl
theorem tie_exitAppend : Extracted.Sched.exitAppend = Canon.Sched.exitAppend := rfl
theorem tie_handlerSwitch : Extracted.Sched.handlerSwitch = Canon.Sched.handlerSwitch := rfl
theorem tie_isReadyTable : Extracted.Sched.isReadyTable = Canon.Sched.isReadyTable := rfl
theorem tie_nodeSignalSkeleton : Extracted.Sched.nodeSignalSkeleton = Canon.Sched.nodeSignalSkeleton := rfl
theorem tie_pred_isFinished : Extracted.Sched.pred_isFinished = Canon.Sched.pred_isFinished := rfl
theorem tie_pred_isSucceed : Extracted.Sched.pred_isSucceed = Canon.Sched.pred_isSucceed := rfl
theorem tie_pred_runningCount : Extracted.Sched.pred_runningCount = Canon.Sched.pred_runningCount := rfl
theorem tie_scheduleIfConds : Extracted.Sched.scheduleIfConds = Canon.Sched.scheduleIfConds := rfl
theorem tie_signalSkeleton : Extracted.Sched.signalSkeleton = Canon.Sched.signalSkeleton := rfl
theorem tie_statusCascade : Extracted.Sched.statusCascade = Canon.Sched.statusCascade := rfl

#print axioms tie_h_sched_Schedule
#print axioms tie_h_sched_isReady
#print axioms tie_h_sched_Status
#print axioms tie_h_sched_Signal
#print axioms tie_h_sched_Cancel
#print axioms tie_h_sched_runHandlerNode
#print axioms tie_h_sched_setupNode
#print axioms tie_h_sched_teardownNode
#print axioms tie_h_sched_execNode
#print axioms tie_h_sched_isFinished
#print axioms tie_h_sched_isSucceed
#print axioms tie_h_sched_runningCount
#print axioms tie_h_sched_isTimeout
#print axioms tie_h_sched_isCanceled
#print axioms tie_h_sched_setCanceled
#print axioms tie_h_sched_setup
#print axioms tie_h_node_signal
#print axioms tie_h_node_cancel
#print axioms tie_h_node_setErr
#print axioms tie_h_node_setStatus
#print axioms tie_h_cond_Condition_eval
#print axioms tie_h_cond_evalCondition
#print axioms tie_h_cond_EvalConditions
#print axioms tie_h_node_finish
#print axioms tie_h_node_State
#print axioms tie_h_node_SetError
#print axioms tie_h_node_getRetryCount
#print axioms tie_h_node_setRetriedAt
#print axioms tie_h_node_getDoneCount
#print axioms tie_h_node_clearState
#print axioms tie_h_node_incRetryCount
#print axioms tie_h_node_incDoneCount
#print axioms tie_h_node_setCmdRunning
#print axioms tie_h_node_isCmdRunning
#print axioms tie_h_node_init
#print axioms tie_h_graph_IsRunning
#print axioms tie_h_rest_sched_dag_scheduler_scheduler_go
#print axioms tie_h_rest_sched_dag_scheduler_node_go
#print axioms tie_h_rest_sched_dag_scheduler_graph_go
#print axioms tie_h_rest_sched_dag_condition_go
#print axioms tie_h_rest_sched_patternutil_patternutil_go
#print axioms tie_h_rest_sched_dag_executor_executor_go
#print axioms tie_h_rest_sched_dag_executor_command_go
#print axioms tie_dryGuards
#print axioms tie_errSwitch
#print axioms tie_exitAppend
#print axioms tie_handlerSwitch
#print axioms tie_isReadyTable
#print axioms tie_nodeSignalSkeleton
#print axioms tie_pred_isFinished
#print axioms tie_pred_isSucceed
#print axioms tie_pred_runningCount
#print axioms tie_scheduleIfConds
#print axioms tie_signalSkeleton
#print axioms tie_statusCascade

end BdModel.Tie.Sched
