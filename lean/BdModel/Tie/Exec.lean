import BdModel.Extracted.Exec
import BdModel.Canon.Exec
/- Tie obligations: what the extractor reads from /repo NOW equals what the model was written against. -/
namespace BdModel.Tie.Exec

theorem tie_h_exec_commandExecutor_Kill : Extracted.Exec.h_exec_commandExecutor_Kill = Canon.Exec.h_exec_commandExecutor_Kill := rfl
theorem tie_h_exec_commandExecutor_Run : Extracted.Exec.h_exec_commandExecutor_Run = Canon.Exec.h_exec_commandExecutor_Run := rfl
theorem tie_h_exec_newCommand : Extracted.Exec.h_exec_newCommand = Canon.Exec.h_exec_newCommand := rfl
theorem tie_h_exec_commandExecutor_SetStdout : Extracted.Exec.h_exec_commandExecutor_SetStdout = Canon.Exec.h_exec_commandExecutor_SetStdout := rfl
theorem tie_h_exec_commandExecutor_SetStderr : Extracted.Exec.h_exec_commandExecutor_SetStderr = Canon.Exec.h_exec_commandExecutor_SetStderr := rfl
theorem tie_h_rest_exec_dag_executor_command_go : Extracted.Exec.h_rest_exec_dag_executor_command_go = Canon.Exec.h_rest_exec_dag_executor_command_go := rfl

#print axioms tie_h_exec_commandExecutor_Kill
#print axioms tie_h_exec_commandExecutor_Run
#print axioms tie_h_exec_newCommand
#print axioms tie_h_exec_commandExecutor_SetStdout
#print axioms tie_h_exec_commandExecutor_SetStderr
#print axioms tie_h_rest_exec_dag_executor_command_go

end BdModel.Tie.Exec
