import BdModel.Extracted.ApiGen
import BdModel.Canon.ApiGen
/- Tie obligations: what the extractor reads from /repo NOW equals what the model was written against. -/
namespace BdModel.Tie.ApiGen

theorem tie_h_rest_apigen_internal_frontend_dag_error_go : Extracted.ApiGen.h_rest_apigen_internal_frontend_dag_error_go = Canon.ApiGen.h_rest_apigen_internal_frontend_dag_error_go := rfl
theorem tie_h_rest_apigen_internal_frontend_middleware_logging_go : Extracted.ApiGen.h_rest_apigen_internal_frontend_middleware_logging_go = Canon.ApiGen.h_rest_apigen_internal_frontend_middleware_logging_go := rfl
theorem tie_h_rest_apigen_internal_frontend_server_routes_go : Extracted.ApiGen.h_rest_apigen_internal_frontend_server_routes_go = Canon.ApiGen.h_rest_apigen_internal_frontend_server_routes_go := rfl
theorem tie_h_rest_apigen_internal_frontend_server_templates_go : Extracted.ApiGen.h_rest_apigen_internal_frontend_server_templates_go = Canon.ApiGen.h_rest_apigen_internal_frontend_server_templates_go := rfl
theorem tie_h_rest_apigen_internal_frontend_gen_restapi_server_go : Extracted.ApiGen.h_rest_apigen_internal_frontend_gen_restapi_server_go = Canon.ApiGen.h_rest_apigen_internal_frontend_gen_restapi_server_go := rfl
theorem tie_h_rest_apigen_internal_frontend_gen_restapi_operations_blackdagger_api_go : Extracted.ApiGen.h_rest_apigen_internal_frontend_gen_restapi_operations_blackdagger_api_go = Canon.ApiGen.h_rest_apigen_internal_frontend_gen_restapi_operations_blackdagger_api_go := rfl
theorem tie_h_rest_apigen_internal_frontend_gen_models_api_error_go : Extracted.ApiGen.h_rest_apigen_internal_frontend_gen_models_api_error_go = Canon.ApiGen.h_rest_apigen_internal_frontend_gen_models_api_error_go := rfl
theorem tie_h_rest_apigen_internal_frontend_gen_models_condition_go : Extracted.ApiGen.h_rest_apigen_internal_frontend_gen_models_condition_go = Canon.ApiGen.h_rest_apigen_internal_frontend_gen_models_condition_go := rfl
theorem tie_h_rest_apigen_internal_frontend_gen_models_create_dag_response_go : Extracted.ApiGen.h_rest_apigen_internal_frontend_gen_models_create_dag_response_go = Canon.ApiGen.h_rest_apigen_internal_frontend_gen_models_create_dag_response_go := rfl
theorem tie_h_rest_apigen_internal_frontend_gen_models_dag_go : Extracted.ApiGen.h_rest_apigen_internal_frontend_gen_models_dag_go = Canon.ApiGen.h_rest_apigen_internal_frontend_gen_models_dag_go := rfl
theorem tie_h_rest_apigen_internal_frontend_gen_models_dag_detail_go : Extracted.ApiGen.h_rest_apigen_internal_frontend_gen_models_dag_detail_go = Canon.ApiGen.h_rest_apigen_internal_frontend_gen_models_dag_detail_go := rfl
theorem tie_h_rest_apigen_internal_frontend_gen_models_dag_list_item_go : Extracted.ApiGen.h_rest_apigen_internal_frontend_gen_models_dag_list_item_go = Canon.ApiGen.h_rest_apigen_internal_frontend_gen_models_dag_list_item_go := rfl
theorem tie_h_rest_apigen_internal_frontend_gen_models_dag_log_grid_item_go : Extracted.ApiGen.h_rest_apigen_internal_frontend_gen_models_dag_log_grid_item_go = Canon.ApiGen.h_rest_apigen_internal_frontend_gen_models_dag_log_grid_item_go := rfl
theorem tie_h_rest_apigen_internal_frontend_gen_models_dag_log_response_go : Extracted.ApiGen.h_rest_apigen_internal_frontend_gen_models_dag_log_response_go = Canon.ApiGen.h_rest_apigen_internal_frontend_gen_models_dag_log_response_go := rfl
theorem tie_h_rest_apigen_internal_frontend_gen_models_dag_scheduler_log_response_go : Extracted.ApiGen.h_rest_apigen_internal_frontend_gen_models_dag_scheduler_log_response_go = Canon.ApiGen.h_rest_apigen_internal_frontend_gen_models_dag_scheduler_log_response_go := rfl
theorem tie_h_rest_apigen_internal_frontend_gen_models_dag_status_go : Extracted.ApiGen.h_rest_apigen_internal_frontend_gen_models_dag_status_go = Canon.ApiGen.h_rest_apigen_internal_frontend_gen_models_dag_status_go := rfl
theorem tie_h_rest_apigen_internal_frontend_gen_models_dag_status_detail_go : Extracted.ApiGen.h_rest_apigen_internal_frontend_gen_models_dag_status_detail_go = Canon.ApiGen.h_rest_apigen_internal_frontend_gen_models_dag_status_detail_go := rfl
theorem tie_h_rest_apigen_internal_frontend_gen_models_dag_status_file_go : Extracted.ApiGen.h_rest_apigen_internal_frontend_gen_models_dag_status_file_go = Canon.ApiGen.h_rest_apigen_internal_frontend_gen_models_dag_status_file_go := rfl
theorem tie_h_rest_apigen_internal_frontend_gen_models_dag_status_with_details_go : Extracted.ApiGen.h_rest_apigen_internal_frontend_gen_models_dag_status_with_details_go = Canon.ApiGen.h_rest_apigen_internal_frontend_gen_models_dag_status_with_details_go := rfl
theorem tie_h_rest_apigen_internal_frontend_gen_models_dag_step_log_response_go : Extracted.ApiGen.h_rest_apigen_internal_frontend_gen_models_dag_step_log_response_go = Canon.ApiGen.h_rest_apigen_internal_frontend_gen_models_dag_step_log_response_go := rfl
theorem tie_h_rest_apigen_internal_frontend_gen_models_get_dag_details_response_go : Extracted.ApiGen.h_rest_apigen_internal_frontend_gen_models_get_dag_details_response_go = Canon.ApiGen.h_rest_apigen_internal_frontend_gen_models_get_dag_details_response_go := rfl
theorem tie_h_rest_apigen_internal_frontend_gen_models_handler_on_go : Extracted.ApiGen.h_rest_apigen_internal_frontend_gen_models_handler_on_go = Canon.ApiGen.h_rest_apigen_internal_frontend_gen_models_handler_on_go := rfl
theorem tie_h_rest_apigen_internal_frontend_gen_models_list_dags_response_go : Extracted.ApiGen.h_rest_apigen_internal_frontend_gen_models_list_dags_response_go = Canon.ApiGen.h_rest_apigen_internal_frontend_gen_models_list_dags_response_go := rfl
theorem tie_h_rest_apigen_internal_frontend_gen_models_list_tag_response_go : Extracted.ApiGen.h_rest_apigen_internal_frontend_gen_models_list_tag_response_go = Canon.ApiGen.h_rest_apigen_internal_frontend_gen_models_list_tag_response_go := rfl
theorem tie_h_rest_apigen_internal_frontend_gen_models_post_dag_action_response_go : Extracted.ApiGen.h_rest_apigen_internal_frontend_gen_models_post_dag_action_response_go = Canon.ApiGen.h_rest_apigen_internal_frontend_gen_models_post_dag_action_response_go := rfl
theorem tie_h_rest_apigen_internal_frontend_gen_models_repeat_policy_go : Extracted.ApiGen.h_rest_apigen_internal_frontend_gen_models_repeat_policy_go = Canon.ApiGen.h_rest_apigen_internal_frontend_gen_models_repeat_policy_go := rfl
theorem tie_h_rest_apigen_internal_frontend_gen_models_schedule_go : Extracted.ApiGen.h_rest_apigen_internal_frontend_gen_models_schedule_go = Canon.ApiGen.h_rest_apigen_internal_frontend_gen_models_schedule_go := rfl
theorem tie_h_rest_apigen_internal_frontend_gen_models_search_dags_match_item_go : Extracted.ApiGen.h_rest_apigen_internal_frontend_gen_models_search_dags_match_item_go = Canon.ApiGen.h_rest_apigen_internal_frontend_gen_models_search_dags_match_item_go := rfl
theorem tie_h_rest_apigen_internal_frontend_gen_models_search_dags_response_go : Extracted.ApiGen.h_rest_apigen_internal_frontend_gen_models_search_dags_response_go = Canon.ApiGen.h_rest_apigen_internal_frontend_gen_models_search_dags_response_go := rfl
theorem tie_h_rest_apigen_internal_frontend_gen_models_search_dags_result_item_go : Extracted.ApiGen.h_rest_apigen_internal_frontend_gen_models_search_dags_result_item_go = Canon.ApiGen.h_rest_apigen_internal_frontend_gen_models_search_dags_result_item_go := rfl
theorem tie_h_rest_apigen_internal_frontend_gen_models_status_detail_go : Extracted.ApiGen.h_rest_apigen_internal_frontend_gen_models_status_detail_go = Canon.ApiGen.h_rest_apigen_internal_frontend_gen_models_status_detail_go := rfl
theorem tie_h_rest_apigen_internal_frontend_gen_models_status_node_go : Extracted.ApiGen.h_rest_apigen_internal_frontend_gen_models_status_node_go = Canon.ApiGen.h_rest_apigen_internal_frontend_gen_models_status_node_go := rfl
theorem tie_h_rest_apigen_internal_frontend_gen_models_step_object_go : Extracted.ApiGen.h_rest_apigen_internal_frontend_gen_models_step_object_go = Canon.ApiGen.h_rest_apigen_internal_frontend_gen_models_step_object_go := rfl
theorem tie_h_rest_apigen_internal_frontend_gen_restapi_operations_dags_create_dag_go : Extracted.ApiGen.h_rest_apigen_internal_frontend_gen_restapi_operations_dags_create_dag_go = Canon.ApiGen.h_rest_apigen_internal_frontend_gen_restapi_operations_dags_create_dag_go := rfl
theorem tie_h_rest_apigen_internal_frontend_gen_restapi_operations_dags_create_dag_parameters_go : Extracted.ApiGen.h_rest_apigen_internal_frontend_gen_restapi_operations_dags_create_dag_parameters_go = Canon.ApiGen.h_rest_apigen_internal_frontend_gen_restapi_operations_dags_create_dag_parameters_go := rfl
theorem tie_h_rest_apigen_internal_frontend_gen_restapi_operations_dags_create_dag_responses_go : Extracted.ApiGen.h_rest_apigen_internal_frontend_gen_restapi_operations_dags_create_dag_responses_go = Canon.ApiGen.h_rest_apigen_internal_frontend_gen_restapi_operations_dags_create_dag_responses_go := rfl
theorem tie_h_rest_apigen_internal_frontend_gen_restapi_operations_dags_create_dag_urlbuilder_go : Extracted.ApiGen.h_rest_apigen_internal_frontend_gen_restapi_operations_dags_create_dag_urlbuilder_go = Canon.ApiGen.h_rest_apigen_internal_frontend_gen_restapi_operations_dags_create_dag_urlbuilder_go := rfl
theorem tie_h_rest_apigen_internal_frontend_gen_restapi_operations_dags_delete_dag_go : Extracted.ApiGen.h_rest_apigen_internal_frontend_gen_restapi_operations_dags_delete_dag_go = Canon.ApiGen.h_rest_apigen_internal_frontend_gen_restapi_operations_dags_delete_dag_go := rfl
theorem tie_h_rest_apigen_internal_frontend_gen_restapi_operations_dags_delete_dag_parameters_go : Extracted.ApiGen.h_rest_apigen_internal_frontend_gen_restapi_operations_dags_delete_dag_parameters_go = Canon.ApiGen.h_rest_apigen_internal_frontend_gen_restapi_operations_dags_delete_dag_parameters_go := rfl
theorem tie_h_rest_apigen_internal_frontend_gen_restapi_operations_dags_delete_dag_responses_go : Extracted.ApiGen.h_rest_apigen_internal_frontend_gen_restapi_operations_dags_delete_dag_responses_go = Canon.ApiGen.h_rest_apigen_internal_frontend_gen_restapi_operations_dags_delete_dag_responses_go := rfl
theorem tie_h_rest_apigen_internal_frontend_gen_restapi_operations_dags_delete_dag_urlbuilder_go : Extracted.ApiGen.h_rest_apigen_internal_frontend_gen_restapi_operations_dags_delete_dag_urlbuilder_go = Canon.ApiGen.h_rest_apigen_internal_frontend_gen_restapi_operations_dags_delete_dag_urlbuilder_go := rfl
theorem tie_h_rest_apigen_internal_frontend_gen_restapi_operations_dags_get_dag_details_go : Extracted.ApiGen.h_rest_apigen_internal_frontend_gen_restapi_operations_dags_get_dag_details_go = Canon.ApiGen.h_rest_apigen_internal_frontend_gen_restapi_operations_dags_get_dag_details_go := rfl
theorem tie_h_rest_apigen_internal_frontend_gen_restapi_operations_dags_get_dag_details_parameters_go : Extracted.ApiGen.h_rest_apigen_internal_frontend_gen_restapi_operations_dags_get_dag_details_parameters_go = Canon.ApiGen.h_rest_apigen_internal_frontend_gen_restapi_operations_dags_get_dag_details_parameters_go := rfl
theorem tie_h_rest_apigen_internal_frontend_gen_restapi_operations_dags_get_dag_details_responses_go : Extracted.ApiGen.h_rest_apigen_internal_frontend_gen_restapi_operations_dags_get_dag_details_responses_go = Canon.ApiGen.h_rest_apigen_internal_frontend_gen_restapi_operations_dags_get_dag_details_responses_go := rfl
theorem tie_h_rest_apigen_internal_frontend_gen_restapi_operations_dags_get_dag_details_urlbuilder_go : Extracted.ApiGen.h_rest_apigen_internal_frontend_gen_restapi_operations_dags_get_dag_details_urlbuilder_go = Canon.ApiGen.h_rest_apigen_internal_frontend_gen_restapi_operations_dags_get_dag_details_urlbuilder_go := rfl
theorem tie_h_rest_apigen_internal_frontend_gen_restapi_operations_dags_list_dags_go : Extracted.ApiGen.h_rest_apigen_internal_frontend_gen_restapi_operations_dags_list_dags_go = Canon.ApiGen.h_rest_apigen_internal_frontend_gen_restapi_operations_dags_list_dags_go := rfl
theorem tie_h_rest_apigen_internal_frontend_gen_restapi_operations_dags_list_dags_parameters_go : Extracted.ApiGen.h_rest_apigen_internal_frontend_gen_restapi_operations_dags_list_dags_parameters_go = Canon.ApiGen.h_rest_apigen_internal_frontend_gen_restapi_operations_dags_list_dags_parameters_go := rfl
theorem tie_h_rest_apigen_internal_frontend_gen_restapi_operations_dags_list_dags_responses_go : Extracted.ApiGen.h_rest_apigen_internal_frontend_gen_restapi_operations_dags_list_dags_responses_go = Canon.ApiGen.h_rest_apigen_internal_frontend_gen_restapi_operations_dags_list_dags_responses_go := rfl
theorem tie_h_rest_apigen_internal_frontend_gen_restapi_operations_dags_list_dags_urlbuilder_go : Extracted.ApiGen.h_rest_apigen_internal_frontend_gen_restapi_operations_dags_list_dags_urlbuilder_go = Canon.ApiGen.h_rest_apigen_internal_frontend_gen_restapi_operations_dags_list_dags_urlbuilder_go := rfl
theorem tie_h_rest_apigen_internal_frontend_gen_restapi_operations_dags_list_tags_go : Extracted.ApiGen.h_rest_apigen_internal_frontend_gen_restapi_operations_dags_list_tags_go = Canon.ApiGen.h_rest_apigen_internal_frontend_gen_restapi_operations_dags_list_tags_go := rfl
theorem tie_h_rest_apigen_internal_frontend_gen_restapi_operations_dags_list_tags_parameters_go : Extracted.ApiGen.h_rest_apigen_internal_frontend_gen_restapi_operations_dags_list_tags_parameters_go = Canon.ApiGen.h_rest_apigen_internal_frontend_gen_restapi_operations_dags_list_tags_parameters_go := rfl
theorem tie_h_rest_apigen_internal_frontend_gen_restapi_operations_dags_list_tags_responses_go : Extracted.ApiGen.h_rest_apigen_internal_frontend_gen_restapi_operations_dags_list_tags_responses_go = Canon.ApiGen.h_rest_apigen_internal_frontend_gen_restapi_operations_dags_list_tags_responses_go := rfl
theorem tie_h_rest_apigen_internal_frontend_gen_restapi_operations_dags_list_tags_urlbuilder_go : Extracted.ApiGen.h_rest_apigen_internal_frontend_gen_restapi_operations_dags_list_tags_urlbuilder_go = Canon.ApiGen.h_rest_apigen_internal_frontend_gen_restapi_operations_dags_list_tags_urlbuilder_go := rfl
theorem tie_h_rest_apigen_internal_frontend_gen_restapi_operations_dags_post_dag_action_go : Extracted.ApiGen.h_rest_apigen_internal_frontend_gen_restapi_operations_dags_post_dag_action_go = Canon.ApiGen.h_rest_apigen_internal_frontend_gen_restapi_operations_dags_post_dag_action_go := rfl
theorem tie_h_rest_apigen_internal_frontend_gen_restapi_operations_dags_post_dag_action_parameters_go : Extracted.ApiGen.h_rest_apigen_internal_frontend_gen_restapi_operations_dags_post_dag_action_parameters_go = Canon.ApiGen.h_rest_apigen_internal_frontend_gen_restapi_operations_dags_post_dag_action_parameters_go := rfl
theorem tie_h_rest_apigen_internal_frontend_gen_restapi_operations_dags_post_dag_action_responses_go : Extracted.ApiGen.h_rest_apigen_internal_frontend_gen_restapi_operations_dags_post_dag_action_responses_go = Canon.ApiGen.h_rest_apigen_internal_frontend_gen_restapi_operations_dags_post_dag_action_responses_go := rfl
theorem tie_h_rest_apigen_internal_frontend_gen_restapi_operations_dags_post_dag_action_urlbuilder_go : Extracted.ApiGen.h_rest_apigen_internal_frontend_gen_restapi_operations_dags_post_dag_action_urlbuilder_go = Canon.ApiGen.h_rest_apigen_internal_frontend_gen_restapi_operations_dags_post_dag_action_urlbuilder_go := rfl
theorem tie_h_rest_apigen_internal_frontend_gen_restapi_operations_dags_search_dags_go : Extracted.ApiGen.h_rest_apigen_internal_frontend_gen_restapi_operations_dags_search_dags_go = Canon.ApiGen.h_rest_apigen_internal_frontend_gen_restapi_operations_dags_search_dags_go := rfl
theorem tie_h_rest_apigen_internal_frontend_gen_restapi_operations_dags_search_dags_parameters_go : Extracted.ApiGen.h_rest_apigen_internal_frontend_gen_restapi_operations_dags_search_dags_parameters_go = Canon.ApiGen.h_rest_apigen_internal_frontend_gen_restapi_operations_dags_search_dags_parameters_go := rfl
theorem tie_h_rest_apigen_internal_frontend_gen_restapi_operations_dags_search_dags_responses_go : Extracted.ApiGen.h_rest_apigen_internal_frontend_gen_restapi_operations_dags_search_dags_responses_go = Canon.ApiGen.h_rest_apigen_internal_frontend_gen_restapi_operations_dags_search_dags_responses_go := rfl
theorem tie_h_rest_apigen_internal_frontend_gen_restapi_operations_dags_search_dags_urlbuilder_go : Extracted.ApiGen.h_rest_apigen_internal_frontend_gen_restapi_operations_dags_search_dags_urlbuilder_go = Canon.ApiGen.h_rest_apigen_internal_frontend_gen_restapi_operations_dags_search_dags_urlbuilder_go := rfl

#print axioms tie_h_rest_apigen_internal_frontend_dag_error_go
#print axioms tie_h_rest_apigen_internal_frontend_middleware_logging_go
#print axioms tie_h_rest_apigen_internal_frontend_server_routes_go
#print axioms tie_h_rest_apigen_internal_frontend_server_templates_go
#print axioms tie_h_rest_apigen_internal_frontend_gen_restapi_server_go
#print axioms tie_h_rest_apigen_internal_frontend_gen_restapi_operations_blackdagger_api_go
#print axioms tie_h_rest_apigen_internal_frontend_gen_models_api_error_go
#print axioms tie_h_rest_apigen_internal_frontend_gen_models_condition_go
#print axioms tie_h_rest_apigen_internal_frontend_gen_models_create_dag_response_go
#print axioms tie_h_rest_apigen_internal_frontend_gen_models_dag_go
#print axioms tie_h_rest_apigen_internal_frontend_gen_models_dag_detail_go
#print axioms tie_h_rest_apigen_internal_frontend_gen_models_dag_list_item_go
#print axioms tie_h_rest_apigen_internal_frontend_gen_models_dag_log_grid_item_go
#print axioms tie_h_rest_apigen_internal_frontend_gen_models_dag_log_response_go
#print axioms tie_h_rest_apigen_internal_frontend_gen_models_dag_scheduler_log_response_go
#print axioms tie_h_rest_apigen_internal_frontend_gen_models_dag_status_go
#print axioms tie_h_rest_apigen_internal_frontend_gen_models_dag_status_detail_go
#print axioms tie_h_rest_apigen_internal_frontend_gen_models_dag_status_file_go
#print axioms tie_h_rest_apigen_internal_frontend_gen_models_dag_status_with_details_go
#print axioms tie_h_rest_apigen_internal_frontend_gen_models_dag_step_log_response_go
#print axioms tie_h_rest_apigen_internal_frontend_gen_models_get_dag_details_response_go
#print axioms tie_h_rest_apigen_internal_frontend_gen_models_handler_on_go
#print axioms tie_h_rest_apigen_internal_frontend_gen_models_list_dags_response_go
#print axioms tie_h_rest_apigen_internal_frontend_gen_models_list_tag_response_go
#print axioms tie_h_rest_apigen_internal_frontend_gen_models_post_dag_action_response_go
#print axioms tie_h_rest_apigen_internal_frontend_gen_models_repeat_policy_go
#print axioms tie_h_rest_apigen_internal_frontend_gen_models_schedule_go
#print axioms tie_h_rest_apigen_internal_frontend_gen_models_search_dags_match_item_go
#print axioms tie_h_rest_apigen_internal_frontend_gen_models_search_dags_response_go
#print axioms tie_h_rest_apigen_internal_frontend_gen_models_search_dags_result_item_go
#print axioms tie_h_rest_apigen_internal_frontend_gen_models_status_detail_go
#print axioms tie_h_rest_apigen_internal_frontend_gen_models_status_node_go
#print axioms tie_h_rest_apigen_internal_frontend_gen_models_step_object_go
#print axioms tie_h_rest_apigen_internal_frontend_gen_restapi_operations_dags_create_dag_go
#print axioms tie_h_rest_apigen_internal_frontend_gen_restapi_operations_dags_create_dag_parameters_go
#print axioms tie_h_rest_apigen_internal_frontend_gen_restapi_operations_dags_create_dag_responses_go
#print axioms tie_h_rest_apigen_internal_frontend_gen_restapi_operations_dags_create_dag_urlbuilder_go
#print axioms tie_h_rest_apigen_internal_frontend_gen_restapi_operations_dags_delete_dag_go
#print axioms tie_h_rest_apigen_internal_frontend_gen_restapi_operations_dags_delete_dag_parameters_go
#print axioms tie_h_rest_apigen_internal_frontend_gen_restapi_operations_dags_delete_dag_responses_go
#print axioms tie_h_rest_apigen_internal_frontend_gen_restapi_operations_dags_delete_dag_urlbuilder_go
#print axioms tie_h_rest_apigen_internal_frontend_gen_restapi_operations_dags_get_dag_details_go
#print axioms tie_h_rest_apigen_internal_frontend_gen_restapi_operations_dags_get_dag_details_parameters_go
#print axioms tie_h_rest_apigen_internal_frontend_gen_restapi_operations_dags_get_dag_details_responses_go
#print axioms tie_h_rest_apigen_internal_frontend_gen_restapi_operations_dags_get_dag_details_urlbuilder_go
#print axioms tie_h_rest_apigen_internal_frontend_gen_restapi_operations_dags_list_dags_go
#print axioms tie_h_rest_apigen_internal_frontend_gen_restapi_operations_dags_list_dags_parameters_go
#print axioms tie_h_rest_apigen_internal_frontend_gen_restapi_operations_dags_list_dags_responses_go
#print axioms tie_h_rest_apigen_internal_frontend_gen_restapi_operations_dags_list_dags_urlbuilder_go
#print axioms tie_h_rest_apigen_internal_frontend_gen_restapi_operations_dags_list_tags_go
#print axioms tie_h_rest_apigen_internal_frontend_gen_restapi_operations_dags_list_tags_parameters_go
#print axioms tie_h_rest_apigen_internal_frontend_gen_restapi_operations_dags_list_tags_responses_go
#print axioms tie_h_rest_apigen_internal_frontend_gen_restapi_operations_dags_list_tags_urlbuilder_go
#print axioms tie_h_rest_apigen_internal_frontend_gen_restapi_operations_dags_post_dag_action_go
#print axioms tie_h_rest_apigen_internal_frontend_gen_restapi_operations_dags_post_dag_action_parameters_go
#print axioms tie_h_rest_apigen_internal_frontend_gen_restapi_operations_dags_post_dag_action_responses_go
#print axioms tie_h_rest_apigen_internal_frontend_gen_restapi_operations_dags_post_dag_action_urlbuilder_go
#print axioms tie_h_rest_apigen_internal_frontend_gen_restapi_operations_dags_search_dags_go
#print axioms tie_h_rest_apigen_internal_frontend_gen_restapi_operations_dags_search_dags_parameters_go
#print axioms tie_h_rest_apigen_internal_frontend_gen_restapi_operations_dags_search_dags_responses_go
#print axioms tie_h_rest_apigen_internal_frontend_gen_restapi_operations_dags_search_dags_urlbuilder_go

end BdModel.Tie.ApiGen
