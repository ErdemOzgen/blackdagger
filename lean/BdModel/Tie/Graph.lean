import BdModel.Extracted.Graph
import BdModel.Canon.Graph
/- Tie obligations: what the extractor reads from /repo NOW equals what the model was written against. -/
namespace BdModel.Tie.Graph

theorem tie_h_graph_setup : Extracted.Graph.h_graph_setup = Canon.Graph.h_graph_setup := rfl
theorem tie_h_graph_hasCycle : Extracted.Graph.h_graph_hasCycle = Canon.Graph.h_graph_hasCycle := rfl
theorem tie_h_graph_addEdge : Extracted.Graph.h_graph_addEdge = Canon.Graph.h_graph_addEdge := rfl
theorem tie_h_graph_findStep : Extracted.Graph.h_graph_findStep = Canon.Graph.h_graph_findStep := rfl
theorem tie_h_graph_setupRetry : Extracted.Graph.h_graph_setupRetry = Canon.Graph.h_graph_setupRetry := rfl
theorem tie_h_graph_NewExecutionGraph : Extracted.Graph.h_graph_NewExecutionGraph = Canon.Graph.h_graph_NewExecutionGraph := rfl
theorem tie_h_graph_NewExecutionGraphForRetry : Extracted.Graph.h_graph_NewExecutionGraphForRetry = Canon.Graph.h_graph_NewExecutionGraphForRetry := rfl
theorem tie_h_graph_node_clearState : Extracted.Graph.h_graph_node_clearState = Canon.Graph.h_graph_node_clearState := rfl
theorem tie_h_rest_graph_dag_scheduler_graph_go : Extracted.Graph.h_rest_graph_dag_scheduler_graph_go = Canon.Graph.h_rest_graph_dag_scheduler_graph_go := rfl
theorem tie_hasCycleFacts : Extracted.Graph.hasCycleFacts = Canon.Graph.hasCycleFacts := rfl
theorem tie_setupRetryFacts : Extracted.Graph.setupRetryFacts = Canon.Graph.setupRetryFacts := rfl

#print axioms tie_h_graph_setup
#print axioms tie_h_graph_hasCycle
#print axioms tie_h_graph_addEdge
#print axioms tie_h_graph_findStep
#print axioms tie_h_graph_setupRetry
#print axioms tie_h_graph_NewExecutionGraph
#print axioms tie_h_graph_NewExecutionGraphForRetry
#print axioms tie_h_graph_node_clearState
#print axioms tie_h_rest_graph_dag_scheduler_graph_go
#print axioms tie_hasCycleFacts
#print axioms tie_setupRetryFacts

end BdModel.Tie.Graph
