import BdModel.Extracted.Report
import BdModel.Canon.Report
/- Tie obligations: what the extractor reads from /repo NOW equals what the model was written against. -/
namespace BdModel.Tie.Report

theorem tie_h_rest_report_internal_agent_reporter_go : Extracted.Report.h_rest_report_internal_agent_reporter_go = Canon.Report.h_rest_report_internal_agent_reporter_go := rfl
theorem tie_h_rest_report_internal_mailer_mailer_go : Extracted.Report.h_rest_report_internal_mailer_mailer_go = Canon.Report.h_rest_report_internal_mailer_mailer_go := rfl
theorem tie_h_rest_report_internal_logger_file_go : Extracted.Report.h_rest_report_internal_logger_file_go = Canon.Report.h_rest_report_internal_logger_file_go := rfl
theorem tie_h_rest_report_internal_logger_logger_go : Extracted.Report.h_rest_report_internal_logger_logger_go = Canon.Report.h_rest_report_internal_logger_logger_go := rfl
theorem tie_h_rest_report_internal_config_resolver_go : Extracted.Report.h_rest_report_internal_config_resolver_go = Canon.Report.h_rest_report_internal_config_resolver_go := rfl
theorem tie_h_rest_report_internal_constants_constants_go : Extracted.Report.h_rest_report_internal_constants_constants_go = Canon.Report.h_rest_report_internal_constants_constants_go := rfl

#print axioms tie_h_rest_report_internal_agent_reporter_go
#print axioms tie_h_rest_report_internal_mailer_mailer_go
#print axioms tie_h_rest_report_internal_logger_file_go
#print axioms tie_h_rest_report_internal_logger_logger_go
#print axioms tie_h_rest_report_internal_config_resolver_go
#print axioms tie_h_rest_report_internal_constants_constants_go

end BdModel.Tie.Report
