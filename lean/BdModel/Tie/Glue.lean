import BdModel.Extracted.Glue
import BdModel.Canon.Glue
/- Tie obligations: what the extractor reads from /repo NOW equals what the model was written against. -/
namespace BdModel.Tie.Glue

theorem tie_h_rest_glue_cmd_start_go : Extracted.Glue.h_rest_glue_cmd_start_go = Canon.Glue.h_rest_glue_cmd_start_go := rfl
theorem tie_h_rest_glue_cmd_retry_go : Extracted.Glue.h_rest_glue_cmd_retry_go = Canon.Glue.h_rest_glue_cmd_retry_go := rfl
theorem tie_h_rest_glue_cmd_restart_go : Extracted.Glue.h_rest_glue_cmd_restart_go = Canon.Glue.h_rest_glue_cmd_restart_go := rfl
theorem tie_h_rest_glue_cmd_dry_go : Extracted.Glue.h_rest_glue_cmd_dry_go = Canon.Glue.h_rest_glue_cmd_dry_go := rfl
theorem tie_h_rest_glue_cmd_stop_go : Extracted.Glue.h_rest_glue_cmd_stop_go = Canon.Glue.h_rest_glue_cmd_stop_go := rfl
theorem tie_h_rest_glue_cmd_status_go : Extracted.Glue.h_rest_glue_cmd_status_go = Canon.Glue.h_rest_glue_cmd_status_go := rfl
theorem tie_h_rest_glue_cmd_scheduler_go : Extracted.Glue.h_rest_glue_cmd_scheduler_go = Canon.Glue.h_rest_glue_cmd_scheduler_go := rfl
theorem tie_h_rest_glue_cmd_server_go : Extracted.Glue.h_rest_glue_cmd_server_go = Canon.Glue.h_rest_glue_cmd_server_go := rfl
theorem tie_h_rest_glue_cmd_root_go : Extracted.Glue.h_rest_glue_cmd_root_go = Canon.Glue.h_rest_glue_cmd_root_go := rfl
theorem tie_h_rest_glue_cmd_signal_go : Extracted.Glue.h_rest_glue_cmd_signal_go = Canon.Glue.h_rest_glue_cmd_signal_go := rfl
theorem tie_h_rest_glue_cmd_reqid_go : Extracted.Glue.h_rest_glue_cmd_reqid_go = Canon.Glue.h_rest_glue_cmd_reqid_go := rfl
theorem tie_h_rest_glue_cmd_start_all_go : Extracted.Glue.h_rest_glue_cmd_start_all_go = Canon.Glue.h_rest_glue_cmd_start_all_go := rfl
theorem tie_h_rest_glue_internal_agent_agent_go : Extracted.Glue.h_rest_glue_internal_agent_agent_go = Canon.Glue.h_rest_glue_internal_agent_agent_go := rfl
theorem tie_h_rest_glue_internal_client_client_go : Extracted.Glue.h_rest_glue_internal_client_client_go = Canon.Glue.h_rest_glue_internal_client_client_go := rfl
theorem tie_h_rest_glue_internal_client_interface_go : Extracted.Glue.h_rest_glue_internal_client_interface_go = Canon.Glue.h_rest_glue_internal_client_interface_go := rfl
theorem tie_h_rest_glue_internal_dag_loader_go : Extracted.Glue.h_rest_glue_internal_dag_loader_go = Canon.Glue.h_rest_glue_internal_dag_loader_go := rfl
theorem tie_h_rest_glue_internal_dag_builder_go : Extracted.Glue.h_rest_glue_internal_dag_builder_go = Canon.Glue.h_rest_glue_internal_dag_builder_go := rfl
theorem tie_h_rest_glue_internal_dag_parser_go : Extracted.Glue.h_rest_glue_internal_dag_parser_go = Canon.Glue.h_rest_glue_internal_dag_parser_go := rfl
theorem tie_h_rest_glue_internal_dag_dag_go : Extracted.Glue.h_rest_glue_internal_dag_dag_go = Canon.Glue.h_rest_glue_internal_dag_dag_go := rfl
theorem tie_h_rest_glue_internal_dag_step_go : Extracted.Glue.h_rest_glue_internal_dag_step_go = Canon.Glue.h_rest_glue_internal_dag_step_go := rfl
theorem tie_h_rest_glue_internal_dag_condition_go : Extracted.Glue.h_rest_glue_internal_dag_condition_go = Canon.Glue.h_rest_glue_internal_dag_condition_go := rfl
theorem tie_h_rest_glue_internal_dag_definition_go : Extracted.Glue.h_rest_glue_internal_dag_definition_go = Canon.Glue.h_rest_glue_internal_dag_definition_go := rfl
theorem tie_h_rest_glue_internal_dag_context_go : Extracted.Glue.h_rest_glue_internal_dag_context_go = Canon.Glue.h_rest_glue_internal_dag_context_go := rfl
theorem tie_h_rest_glue_internal_dag_assert_go : Extracted.Glue.h_rest_glue_internal_dag_assert_go = Canon.Glue.h_rest_glue_internal_dag_assert_go := rfl
theorem tie_h_rest_glue_internal_dag_errors_go : Extracted.Glue.h_rest_glue_internal_dag_errors_go = Canon.Glue.h_rest_glue_internal_dag_errors_go := rfl
theorem tie_h_rest_glue_internal_dag_syncmap_go : Extracted.Glue.h_rest_glue_internal_dag_syncmap_go = Canon.Glue.h_rest_glue_internal_dag_syncmap_go := rfl
theorem tie_h_rest_glue_internal_config_config_go : Extracted.Glue.h_rest_glue_internal_config_config_go = Canon.Glue.h_rest_glue_internal_config_config_go := rfl
theorem tie_h_rest_glue_internal_frontend_frontend_go : Extracted.Glue.h_rest_glue_internal_frontend_frontend_go = Canon.Glue.h_rest_glue_internal_frontend_frontend_go := rfl
theorem tie_h_rest_glue_internal_frontend_server_server_go : Extracted.Glue.h_rest_glue_internal_frontend_server_server_go = Canon.Glue.h_rest_glue_internal_frontend_server_server_go := rfl
theorem tie_h_rest_glue_internal_persistence_client_store_factory_go : Extracted.Glue.h_rest_glue_internal_persistence_client_store_factory_go = Canon.Glue.h_rest_glue_internal_persistence_client_store_factory_go := rfl
theorem tie_h_rest_glue_internal_persistence_interface_go : Extracted.Glue.h_rest_glue_internal_persistence_interface_go = Canon.Glue.h_rest_glue_internal_persistence_interface_go := rfl
theorem tie_h_rest_glue_internal_persistence_model_status_go : Extracted.Glue.h_rest_glue_internal_persistence_model_status_go = Canon.Glue.h_rest_glue_internal_persistence_model_status_go := rfl
theorem tie_h_rest_glue_internal_persistence_model_node_go : Extracted.Glue.h_rest_glue_internal_persistence_model_node_go = Canon.Glue.h_rest_glue_internal_persistence_model_node_go := rfl
theorem tie_h_rest_glue_internal_util_utils_go : Extracted.Glue.h_rest_glue_internal_util_utils_go = Canon.Glue.h_rest_glue_internal_util_utils_go := rfl
theorem tie_h_rest_glue_internal_sock_client_go : Extracted.Glue.h_rest_glue_internal_sock_client_go = Canon.Glue.h_rest_glue_internal_sock_client_go := rfl
theorem tie_h_rest_glue_internal_sock_server_go : Extracted.Glue.h_rest_glue_internal_sock_server_go = Canon.Glue.h_rest_glue_internal_sock_server_go := rfl
theorem tie_h_rest_glue_internal_dag_executor_executor_go : Extracted.Glue.h_rest_glue_internal_dag_executor_executor_go = Canon.Glue.h_rest_glue_internal_dag_executor_executor_go := rfl
theorem tie_h_rest_glue_internal_dag_executor_command_go : Extracted.Glue.h_rest_glue_internal_dag_executor_command_go = Canon.Glue.h_rest_glue_internal_dag_executor_command_go := rfl
theorem tie_h_rest_glue_main_go : Extracted.Glue.h_rest_glue_main_go = Canon.Glue.h_rest_glue_main_go := rfl

#print axioms tie_h_rest_glue_cmd_start_go
#print axioms tie_h_rest_glue_cmd_retry_go
#print axioms tie_h_rest_glue_cmd_restart_go
#print axioms tie_h_rest_glue_cmd_dry_go
#print axioms tie_h_rest_glue_cmd_stop_go
#print axioms tie_h_rest_glue_cmd_status_go
#print axioms tie_h_rest_glue_cmd_scheduler_go
#print axioms tie_h_rest_glue_cmd_server_go
#print axioms tie_h_rest_glue_cmd_root_go
#print axioms tie_h_rest_glue_cmd_signal_go
#print axioms tie_h_rest_glue_cmd_reqid_go
#print axioms tie_h_rest_glue_cmd_start_all_go
#print axioms tie_h_rest_glue_internal_agent_agent_go
#print axioms tie_h_rest_glue_internal_client_client_go
#print axioms tie_h_rest_glue_internal_client_interface_go
#print axioms tie_h_rest_glue_internal_dag_loader_go
#print axioms tie_h_rest_glue_internal_dag_builder_go
#print axioms tie_h_rest_glue_internal_dag_parser_go
#print axioms tie_h_rest_glue_internal_dag_dag_go
#print axioms tie_h_rest_glue_internal_dag_step_go
#print axioms tie_h_rest_glue_internal_dag_condition_go
#print axioms tie_h_rest_glue_internal_dag_definition_go
#print axioms tie_h_rest_glue_internal_dag_context_go
#print axioms tie_h_rest_glue_internal_dag_assert_go
#print axioms tie_h_rest_glue_internal_dag_errors_go
#print axioms tie_h_rest_glue_internal_dag_syncmap_go
#print axioms tie_h_rest_glue_internal_config_config_go
#print axioms tie_h_rest_glue_internal_frontend_frontend_go
#print axioms tie_h_rest_glue_internal_frontend_server_server_go
#print axioms tie_h_rest_glue_internal_persistence_client_store_factory_go
#print axioms tie_h_rest_glue_internal_persistence_interface_go
#print axioms tie_h_rest_glue_internal_persistence_model_status_go
#print axioms tie_h_rest_glue_internal_persistence_model_node_go
#print axioms tie_h_rest_glue_internal_util_utils_go
#print axioms tie_h_rest_glue_internal_sock_client_go
#print axioms tie_h_rest_glue_internal_sock_server_go
#print axioms tie_h_rest_glue_internal_dag_executor_executor_go
#print axioms tie_h_rest_glue_internal_dag_executor_command_go
#print axioms tie_h_rest_glue_main_go

end BdModel.Tie.Glue
