import BdModel.Extracted.Cron
import BdModel.Canon.Cron
/- Tie obligations: what the extractor reads from /repo NOW equals what the model was written against. -/
namespace BdModel.Tie.Cron

theorem tie_h_cron_run : Extracted.Cron.h_cron_run = Canon.Cron.h_cron_run := rfl
theorem tie_h_cron_nextTick : Extracted.Cron.h_cron_nextTick = Canon.Cron.h_cron_nextTick := rfl
theorem tie_h_cron_start : Extracted.Cron.h_cron_start = Canon.Cron.h_cron_start := rfl
theorem tie_h_cron_Invoke : Extracted.Cron.h_cron_Invoke = Canon.Cron.h_cron_Invoke := rfl
theorem tie_h_cron_now : Extracted.Cron.h_cron_now = Canon.Cron.h_cron_now := rfl
theorem tie_h_cron_jobStart : Extracted.Cron.h_cron_jobStart = Canon.Cron.h_cron_jobStart := rfl
theorem tie_h_cron_jobStop : Extracted.Cron.h_cron_jobStop = Canon.Cron.h_cron_jobStop := rfl
theorem tie_h_cron_jobRestart : Extracted.Cron.h_cron_jobRestart = Canon.Cron.h_cron_jobRestart := rfl
theorem tie_h_cron_Read : Extracted.Cron.h_cron_Read = Canon.Cron.h_cron_Read := rfl
theorem tie_h_cron_initDags : Extracted.Cron.h_cron_initDags = Canon.Cron.h_cron_initDags := rfl
theorem tie_h_cron_watchDags : Extracted.Cron.h_cron_watchDags = Canon.Cron.h_cron_watchDags := rfl
theorem tie_h_cron_newEntryReader : Extracted.Cron.h_cron_newEntryReader = Canon.Cron.h_cron_newEntryReader := rfl
theorem tie_h_cron_buildSchedule : Extracted.Cron.h_cron_buildSchedule = Canon.Cron.h_cron_buildSchedule := rfl
theorem tie_h_cron_parseSchedules : Extracted.Cron.h_cron_parseSchedules = Canon.Cron.h_cron_parseSchedules := rfl
theorem tie_h_cron_parseScheduleMap : Extracted.Cron.h_cron_parseScheduleMap = Canon.Cron.h_cron_parseScheduleMap := rfl
theorem tie_h_cron_ParseTime : Extracted.Cron.h_cron_ParseTime = Canon.Cron.h_cron_ParseTime := rfl
theorem tie_h_cron_parseCron : Extracted.Cron.h_cron_parseCron = Canon.Cron.h_cron_parseCron := rfl
theorem tie_h_rest_cron_scheduler_scheduler_go : Extracted.Cron.h_rest_cron_scheduler_scheduler_go = Canon.Cron.h_rest_cron_scheduler_scheduler_go := rfl
theorem tie_h_rest_cron_scheduler_job_go : Extracted.Cron.h_rest_cron_scheduler_job_go = Canon.Cron.h_rest_cron_scheduler_job_go := rfl
theorem tie_h_rest_cron_scheduler_entryreader_go : Extracted.Cron.h_rest_cron_scheduler_entryreader_go = Canon.Cron.h_rest_cron_scheduler_entryreader_go := rfl
theorem tie_h_rest_cron_persistence_local_flag_store_go : Extracted.Cron.h_rest_cron_persistence_local_flag_store_go = Canon.Cron.h_rest_cron_persistence_local_flag_store_go := rfl
theorem tie_h_rest_cron_persistence_local_storage_storage_go : Extracted.Cron.h_rest_cron_persistence_local_storage_storage_go = Canon.Cron.h_rest_cron_persistence_local_storage_storage_go := rfl
theorem tie_h_rest_cron_client_client_go : Extracted.Cron.h_rest_cron_client_client_go = Canon.Cron.h_rest_cron_client_client_go := rfl
theorem tie_h_rest_cron_dag_parser_go : Extracted.Cron.h_rest_cron_dag_parser_go = Canon.Cron.h_rest_cron_dag_parser_go := rfl

#print axioms tie_h_cron_run
#print axioms tie_h_cron_nextTick
#print axioms tie_h_cron_start
#print axioms tie_h_cron_Invoke
#print axioms tie_h_cron_now
#print axioms tie_h_cron_jobStart
#print axioms tie_h_cron_jobStop
#print axioms tie_h_cron_jobRestart
#print axioms tie_h_cron_Read
#print axioms tie_h_cron_initDags
#print axioms tie_h_cron_watchDags
#print axioms tie_h_cron_newEntryReader
#print axioms tie_h_cron_buildSchedule
#print axioms tie_h_cron_parseSchedules
#print axioms tie_h_cron_parseScheduleMap
#print axioms tie_h_cron_ParseTime
#print axioms tie_h_cron_parseCron
#print axioms tie_h_rest_cron_scheduler_scheduler_go
#print axioms tie_h_rest_cron_scheduler_job_go
#print axioms tie_h_rest_cron_scheduler_entryreader_go
#print axioms tie_h_rest_cron_persistence_local_flag_store_go
#print axioms tie_h_rest_cron_persistence_local_storage_storage_go
#print axioms tie_h_rest_cron_client_client_go
#print axioms tie_h_rest_cron_dag_parser_go

end BdModel.Tie.Cron
