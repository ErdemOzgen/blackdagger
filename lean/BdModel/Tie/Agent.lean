import BdModel.Extracted.Agent
import BdModel.Canon.Agent
/- Tie obligations: what the extractor reads from /repo NOW equals what the model was written against. -/
namespace BdModel.Tie.Agent

theorem tie_h_agent_Agent_Status : Extracted.Agent.h_agent_Agent_Status = Canon.Agent.h_agent_Agent_Status := rfl
theorem tie_h_agent_Agent_Run : Extracted.Agent.h_agent_Agent_Run = Canon.Agent.h_agent_Agent_Run := rfl
theorem tie_h_agent_client_GetLatestStatus : Extracted.Agent.h_agent_client_GetLatestStatus = Canon.Agent.h_agent_client_GetLatestStatus := rfl
theorem tie_h_agent_client_currentStatus : Extracted.Agent.h_agent_client_currentStatus = Canon.Agent.h_agent_client_currentStatus := rfl
theorem tie_h_agent_Status_CorrectRunningStatus : Extracted.Agent.h_agent_Status_CorrectRunningStatus = Canon.Agent.h_agent_Status_CorrectRunningStatus := rfl
theorem tie_h_agent_Agent_signal : Extracted.Agent.h_agent_Agent_signal = Canon.Agent.h_agent_Agent_signal := rfl
theorem tie_h_agent_Agent_Signal : Extracted.Agent.h_agent_Agent_Signal = Canon.Agent.h_agent_Agent_Signal := rfl
theorem tie_h_agent_Agent_HandleHTTP : Extracted.Agent.h_agent_Agent_HandleHTTP = Canon.Agent.h_agent_Agent_HandleHTTP := rfl
theorem tie_h_rest_agent_agent_agent_go : Extracted.Agent.h_rest_agent_agent_agent_go = Canon.Agent.h_rest_agent_agent_agent_go := rfl
theorem tie_h_rest_agent_persistence_model_status_go : Extracted.Agent.h_rest_agent_persistence_model_status_go = Canon.Agent.h_rest_agent_persistence_model_status_go := rfl
theorem tie_h_rest_agent_persistence_model_node_go : Extracted.Agent.h_rest_agent_persistence_model_node_go = Canon.Agent.h_rest_agent_persistence_model_node_go := rfl
theorem tie_h_rest_agent_client_client_go : Extracted.Agent.h_rest_agent_client_client_go = Canon.Agent.h_rest_agent_client_client_go := rfl
theorem tie_h_rest_agent_sock_client_go : Extracted.Agent.h_rest_agent_sock_client_go = Canon.Agent.h_rest_agent_sock_client_go := rfl
theorem tie_h_rest_agent_sock_server_go : Extracted.Agent.h_rest_agent_sock_server_go = Canon.Agent.h_rest_agent_sock_server_go := rfl

#print axioms tie_h_agent_Agent_Status
#print axioms tie_h_agent_Agent_Run
#print axioms tie_h_agent_client_GetLatestStatus
#print axioms tie_h_agent_client_currentStatus
#print axioms tie_h_agent_Status_CorrectRunningStatus
#print axioms tie_h_agent_Agent_signal
#print axioms tie_h_agent_Agent_Signal
#print axioms tie_h_agent_Agent_HandleHTTP
#print axioms tie_h_rest_agent_agent_agent_go
#print axioms tie_h_rest_agent_persistence_model_status_go
#print axioms tie_h_rest_agent_persistence_model_node_go
#print axioms tie_h_rest_agent_client_client_go
#print axioms tie_h_rest_agent_sock_client_go
#print axioms tie_h_rest_agent_sock_server_go

end BdModel.Tie.Agent
