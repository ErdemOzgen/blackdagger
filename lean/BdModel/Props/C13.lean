import BdModel.Proofs.Load
/-
  C13 — any file content is either rejected with an error or yields a runnable DAG.
  `build o opts t` is the model of decode + builder.build on the untyped YAML tree `t` (BdModel/Load), as the
  loader stands after the fixes 208b483, 2134a7a, 677265a, d52d2ba, 6a100f2, b765887, 0f8807c;
  `o : Orc` carries the library facts the model does not compute (cron validity, signal names), `opts` the
  entry point's options. Every statement is for ALL trees, oracles and options — no exclusion is left.
-/
namespace BdModel.P13
open BdModel.Load

/-- **C13, part 1: loading never panics** — every tree, every entry point. The builder's nil dereferences
    are still in the model (`Res.panic site`); they are unreachable behind `assertNoNullElements`. -/
theorem C13_never_panics (o : Orc) (opts : Opts) (t : Tree) : ∀ s, build o opts t ≠ .panic s := by
  intro s hs
  have := (build_sat o opts t).not_panic
  rw [hs] at this
  cases this

/-- **C13, part 2: what every accepted DAG satisfies** — all steps and handlers named and with something to
    execute; every STORED stop-signal name is empty or one `unix.SignalNum` resolves (the call the stop path makes
    on the stored name); schedules that parse; the status serialisable; preconditions safe to evaluate. -/
theorem C13_accepted (o : Orc) (opts : Opts) (t : Tree) (d : Dag) (h : build o opts t = .ok d) :
    d.wellFormed o ∧ d.serialisable ∧ d.evalSafe := by
  have := build_sat o opts t
  rw [h] at this
  obtain ⟨hsteps, hsched⟩ := this
  exact ⟨⟨⟨fun s hs => ⟨(hsteps s hs).named, (hsteps s hs).signal⟩, hsched⟩, fun s hs => (hsteps s hs).exec⟩,
    fun s hs => (hsteps s hs).serial, fun _ _ => rfl, fun _ _ _ _ => rfl⟩

/-- **C13 (full strength).** Loading never panics, and an accepted DAG is well-formed (every step named and
    with something to execute, schedules parse, signals valid), its status serialisable, its preconditions
    safe to evaluate. -/
theorem C13_full (o : Orc) (opts : Opts) (t : Tree) :
    (∀ s, build o opts t ≠ .panic s) ∧
    ∀ d, build o opts t = .ok d → d.wellFormed o ∧ d.serialisable ∧ d.evalSafe :=
  ⟨C13_never_panics o opts t, C13_accepted o opts t⟩

/-! ### regression witnesses: the inputs that refuted C13 before the fixes (each is in the check's corpus and
    replayed on the real loader; all are now rejected with an error or accepted in a sound state) -/

def orc : Orc := { cronOk := fun _ => true, sigOk := fun _ => true }
def isErr (r : Res Dag) : Bool := match r with | .err => true | _ => false
def okAnd (r : Res Dag) (p : Dag → Bool) : Bool := match r with | .ok d => p d | _ => false

def step1 : Tree := .map [(.str (S "name"), .str (S "s")), (.str (S "command"), .str (S "true"))]
def doc (kvs : List (Tree × Tree)) : Tree := .map (kvs ++ [(.str (S "steps"), .list [step1])])
def stepWith (kvs : List (Tree × Tree)) : Tree := .map [(.str (S "steps"), .list [.map ((.str (S "name"), .str (S "s")) :: kvs)])]

/-- `schedule: {foo: "* * * * *"}` (2134a7a) — also with no value: `schedule: {foo: []}` -/
example : isErr (build orc {} (doc [(.str (S "schedule"), .map [(.str (S "foo"), .str (S "* * * * *"))])])) = true := by decide +kernel
example : isErr (build orc {} (doc [(.str (S "schedule"), .map [(.str (S "foo"), .list [])])])) = true := by decide +kernel
/-- `steps: [null]`, `preconditions: [null]`, `functions: [null]` (208b483) — also through LoadMetadata -/
example : isErr (build orc {} (.map [(.str (S "steps"), .list [.null])])) = true := by decide +kernel
example : isErr (build orc { metadataOnly := true } (.map [(.str (S "steps"), .list [.null])])) = true := by decide +kernel
example : isErr (build orc {} (doc [(.str (S "preconditions"), .list [.null])])) = true := by decide +kernel
example : isErr (build orc {} (doc [(.str (S "functions"), .list [.null])])) = true := by decide +kernel
/-- `schedule: "TZ=UTC"` (677265a) -/
example : isErr (build orc {} (doc [(.str (S "schedule"), .str (S "TZ=UTC"))])) = true := by decide +kernel
example : isErr (build orc { metadataOnly := true } (doc [(.str (S "schedule"), .str (S "TZ=UTC"))])) = true := by decide +kernel
/-- a step with a non-string key (d52d2ba) -/
example : isErr (build orc {} (.map [(.str (S "steps"), .list [.map [(.str (S "name"), .str (S "s")), (.int 1, .str (S "x"))]])])) = true := by decide +kernel
/-- `command: []`, `executor: ""` (6a100f2) -/
example : isErr (build orc {} (stepWith [(.str (S "command"), .list [])])) = true := by decide +kernel
example : isErr (build orc {} (stepWith [(.str (S "executor"), .str [])])) = true := by decide +kernel
/-- executor config with a list of maps is accepted AND serialisable; with `.nan` it is rejected (b765887) -/
example : okAnd (build orc {} (stepWith [(.str (S "command"), .str (S "true")),
      (.str (S "executor"), .map [(.str (S "type"), .str (S "docker")),
        (.str (S "config"), .map [(.str (S "x"), .list [.map [(.str (S "a"), .int 1)]])])])]))
      (fun d => d.allSteps.all Step.serial) = true := by decide +kernel
example : isErr (build orc {} (stepWith [(.str (S "command"), .str (S "true")),
      (.str (S "executor"), .map [(.str (S "type"), .str (S "docker")),
        (.str (S "config"), .map [(.str (S "x"), .list [.float false])])])])) = true := by decide +kernel

/-! schedule maps: a null / wrong-typed value under start / stop / restart is ignored and leaves the other keys'
    lists alone (whatever the order of the entries); a wrong-typed schedule at the top level or a non-string
    list element is an error -/
def schedOf (t : Tree) : Tree := doc [(.str (S "schedule"), t)]
def c1 : Str := S "0 1 * * *"
example : okAnd (build orc {} (schedOf (.map [(.str (S "start"), .str c1), (.str (S "stop"), .null)])))
    (fun d => d.starts == [c1] && d.stops.isEmpty && d.restarts.isEmpty) = true := by decide +kernel
example : okAnd (build orc {} (schedOf (.map [(.str (S "stop"), .int 5), (.str (S "start"), .str c1), (.str (S "restart"), .map [])])))
    (fun d => d.starts == [c1] && d.stops.isEmpty && d.restarts.isEmpty) = true := by decide +kernel
example : okAnd (build orc {} (schedOf (.map [(.str (S "start"), .str c1), (.str (S "stop"), .bool true), (.str (S "restart"), .float true)])))
    (fun d => d.starts == [c1] && d.stops.isEmpty && d.restarts.isEmpty) = true := by decide +kernel
example : isErr (build orc {} (schedOf (.int 5))) = true := by decide +kernel
example : isErr (build orc {} (schedOf (.list [.str c1, .int 5]))) = true := by decide +kernel
example : isErr (build orc {} (schedOf (.map [(.str (S "start"), .list [.str c1, .null])]))) = true := by decide +kernel

/-! stop signals: `parseMiscs` validates and stores the SAME string, so only spellings `unix.SignalNum` knows are
    accepted and the stored name is the one the stop path resolves (`C13_accepted`: `s.signal = [] ∨ o.sigOk s.signal`) -/
def orcSig : Orc := { cronOk := fun _ => true, sigOk := fun s => s == S "SIGINT" || s == S "SIGUSR1" }
example : okAnd (build orcSig {} (stepWith [(.str (S "command"), .str (S "true")), (.str (S "signalOnStop"), .str (S "SIGINT"))]))
    (fun d => d.allSteps.all (fun s => s.signal == S "SIGINT")) = true := by decide +kernel
example : isErr (build orcSig {} (stepWith [(.str (S "command"), .str (S "true")), (.str (S "signalOnStop"), .str (S "sigint"))])) = true := by decide +kernel
example : isErr (build orcSig {} (stepWith [(.str (S "command"), .str (S "true")), (.str (S "signalOnStop"), .str (S "INT"))])) = true := by decide +kernel
example : isErr (build orcSig {} (stepWith [(.str (S "command"), .str (S "true")), (.str (S "signalOnStop"), .str (S " SIGINT "))])) = true := by decide +kernel
example : isErr (build orcSig {} (stepWith [(.str (S "command"), .str (S "true")), (.str (S "signalOnStop"), .str [])])) = true := by decide +kernel
/-- handlers too -/
example : isErr (build orcSig {} (doc [(.str (S "handlerOn"), .map [(.str (S "cancel"), .map [(.str (S "command"), .str (S "true")), (.str (S "signalOnStop"), .str (S "usr1"))])])])) = true := by decide +kernel

/-! non-vacuity: an accepted definition with schedule map, handler and function call -/
def good : Tree := .map [
  (.str (S "name"), .str (S "d")),
  (.str (S "schedule"), .map [(.str (S "start"), .str (S "0 1 * * *")), (.str (S "stop"), .list [.str (S "0 2 * * *")])]),
  (.str (S "functions"), .list [.map [(.str (S "name"), .str (S "f")), (.str (S "params"), .str (S "x")), (.str (S "command"), .str (S "echo $x"))]]),
  (.str (S "handlerOn"), .map [(.str (S "exit"), .map [(.str (S "command"), .str (S "echo bye"))])]),
  (.str (S "steps"), .list [step1, .map [(.str (S "name"), .str (S "t")), (.str (S "call"), .map [(.str (S "function"), .str (S "f")), (.str (S "args"), .map [(.str (S "x"), .int 1)])])]])]
example : okAnd (build orc {} good) (fun d => d.steps.length == 2 && d.allSteps.all Step.hasExec && d.starts.length == 1 && d.stops.length == 1 && d.onExit.isSome) = true := by decide +kernel

end BdModel.P13

#print axioms BdModel.P13.C13_never_panics
#print axioms BdModel.P13.C13_accepted
#print axioms BdModel.P13.C13_full
