import BdModel.Defs.Store
import BdModel.Proofs.DefsNames
import BdModel.Props.C06
/-
  C18 — DAG definitions are created, saved, renamed and deleted safely.
  Quantification: every world (any definitions, any history), every name / text / validity verdict.
  Names: a DAG is the FILE a name denotes (`Defs.resolve` = util.AddYamlExtension); the abstract names of the
  store model are `keyOf` of the spellings (C18_names_*), `renameSp` is the client's rename called with spellings.
-/
namespace BdModel.P18
open BdModel.Defs BdModel.Hist

theorem lookup_dropDef (w : World) (n m : Nat) : lookup (dropDef w n) m = if m = n then none else lookup w m := by
  rw [lookup, dropDef, find?_filter_fst_ne]
  split <;> rfl

theorem lookup_setDef (w : World) (n t m : Nat) : lookup (setDef w n t) m = if m = n then some t else lookup w m := by
  rw [lookup, setDef, List.find?_append, find?_filter_fst_ne]
  split
  · rename_i e; simp [e]
  · rename_i e; simp [lookup, Ne.symm e]

theorem lookup_move (w : World) {a b m : Nat} (t : Nat) (hma : m ≠ a) (hmb : m ≠ b) :
    lookup (setDef (dropDef w a) b t) m = lookup w m := by
  rw [lookup_setDef, if_neg hmb, lookup_dropDef, if_neg hma]

/-- **C18 (create never overwrites).** Creating under an existing name is refused and changes nothing;
    otherwise only that name changes. -/
theorem C18_create (w : World) (n tmpl : Nat) :
    (exists? w n = true → create w n tmpl = (w, .err)) ∧
    (∀ m, m ≠ n → lookup (create w n tmpl).1 m = lookup w m) ∧ (create w n tmpl).1.hist = w.hist := by
  refine ⟨fun h => by simp [create, h], fun m hm => ?_, ?_⟩
  · unfold create; split
    · rfl
    · rw [lookup_setDef, if_neg hm]
  · unfold create; split <;> rfl

theorem save_cases (valid : Nat → Bool) (w : World) (n t : Nat) :
    ((valid t = false ∨ exists? w n = false) ∧ save valid w n t = (w, .err)) ∨
    (valid t = true ∧ exists? w n = true ∧ save valid w n t = (setDef w n t, .ok)) := by
  rw [save]
  cases hv : valid t with
  | false => exact Or.inl ⟨Or.inl rfl, rfl⟩
  | true =>
    cases he : exists? w n with
    | false => exact Or.inl ⟨Or.inr rfl, rfl⟩
    | true => exact Or.inr ⟨rfl, rfl, rfl⟩

/-- **C18 (save).** An invalid text, or a save under a name that does not exist, is refused and changes
    nothing at all; an accepted save replaces exactly that definition. -/
theorem C18_save (valid : Nat → Bool) (w : World) (n t : Nat) :
    ((valid t = false ∨ exists? w n = false) → save valid w n t = (w, .err)) ∧
    ((save valid w n t).2 = .ok → lookup (save valid w n t).1 n = some t) ∧
    (∀ m, m ≠ n → lookup (save valid w n t).1 m = lookup w m) ∧ (save valid w n t).1.hist = w.hist := by
  rcases save_cases valid w n t with ⟨_, e⟩ | ⟨hv, he, e⟩ <;> rw [e]
  · exact ⟨fun _ => rfl, nofun, fun _ _ => rfl, rfl⟩
  · refine ⟨fun h => ?_, fun _ => by rw [lookup_setDef, if_pos rfl], fun m hm => by rw [lookup_setDef, if_neg hm], rfl⟩
    rcases h with h | h
    · exact absurd (hv.symm.trans h) nofun
    · exact absurd (he.symm.trans h) nofun

/-- **C18 (save is all-or-nothing under a crash).** In EVERY state a kill during a save can leave, the
    definition holds the complete old or the complete new text, and every other definition and the
    history are untouched. -/
theorem C18_save_atomic (valid : Nat → Bool) (w : World) (n t : Nat) (w' : World) (h : w' ∈ saveStates valid w n t) :
    (lookup w' n = lookup w n ∨ lookup w' n = some t) ∧ (∀ m, m ≠ n → lookup w' m = lookup w m) ∧ w'.hist = w.hist := by
  unfold saveStates at h
  split at h
  · simp at h; subst h; exact ⟨Or.inl rfl, fun _ _ => rfl, rfl⟩
  · simp only [List.mem_cons, List.not_mem_nil, or_false] at h
    rcases h with rfl | rfl | rfl
    · exact ⟨Or.inl rfl, fun _ _ => rfl, rfl⟩
    · exact ⟨Or.inl rfl, fun _ _ => rfl, rfl⟩
    · exact ⟨Or.inr (by rw [lookup_setDef, if_pos rfl]), fun m hm => by rw [lookup_setDef, if_neg hm], rfl⟩

/-- **C18 (rename never overwrites, carries text and history).** -/
theorem C18_rename (w : World) (a b : Nat) :
    (exists? w b = true → Defs.rename w a b = (w, .err)) ∧
    ((Defs.rename w a b).2 = .ok → a ≠ b →
        lookup (Defs.rename w a b).1 b = lookup w a ∧ lookup (Defs.rename w a b).1 a = none ∧
        filesOf (Defs.rename w a b).1.hist a = [] ∧
        ∀ f ∈ filesOf w.hist a, ({ f with dag := b } : RunFile) ∈ filesOf (Defs.rename w a b).1.hist b) ∧
    (∀ m, m ≠ a → m ≠ b → lookup (Defs.rename w a b).1 m = lookup w m ∧
        filesOf (Defs.rename w a b).1.hist m = filesOf w.hist m) := by
  refine ⟨?_, ?_, ?_⟩
  · intro h
    unfold Defs.rename
    split
    · rfl
    · simp [h]
  · intro hok hab
    unfold Defs.rename at hok ⊢
    split at hok
    · cases hok
    · rename_i t ht
      simp only [ht]
      split at hok
      · cases hok
      · rename_i hb
        simp only [hb]
        have hr := P06.C06_rename w.hist a b hab
        refine ⟨?_, ?_, hr.1, hr.2⟩
        · show lookup (setDef (dropDef w a) b t) b = _
          rw [lookup_setDef, if_pos rfl]
        · show lookup (setDef (dropDef w a) b t) a = none
          rw [lookup_setDef, if_neg hab, lookup_dropDef, if_pos rfl]
  · intro m hma hmb
    unfold Defs.rename
    split
    · exact ⟨rfl, rfl⟩
    · split
      · exact ⟨rfl, rfl⟩
      · rename_i t _ _
        exact ⟨lookup_move w t hma hmb, filesOf_apply w.hist (.rename a b) m (by simp [touches, hma, hmb])⟩

/-- **C18 (delete removes its own definition and history and nothing else).** -/
theorem C18_delete (w : World) (n : Nat) :
    lookup (delete w n).1 n = none ∧ filesOf (delete w n).1.hist n = [] ∧
    (∀ m, m ≠ n → lookup (delete w n).1 m = lookup w m ∧ filesOf (delete w n).1.hist m = filesOf w.hist m) := by
  have hh : ∀ w' : World, w'.hist = Hist.removeOld w.hist n 0 →
      filesOf w'.hist n = [] ∧ ∀ m, m ≠ n → filesOf w'.hist m = filesOf w.hist m := by
    intro w' e
    rw [e]
    constructor
    · rw [P06.C06_retention]; simp
    · intro m hm
      exact filesOf_apply w.hist (.removeOld n 0) m (by simp [touches, hm])
  unfold delete
  simp only
  split
  · rename_i h
    refine ⟨by rw [lookup_dropDef, if_pos rfl], (hh _ rfl).1, fun m hm => ⟨?_, (hh _ rfl).2 m hm⟩⟩
    rw [lookup_dropDef, if_neg hm]; rfl
  · rename_i h
    refine ⟨?_, (hh _ rfl).1, fun m hm => ⟨rfl, (hh _ rfl).2 m hm⟩⟩
    exact Option.not_isSome_iff_eq_none.mp h

/-- **C18 (names: the spellings of one DAG).** For an extension-free name `n`: `n`, `n.yml`, `n.yaml` denote the same
    file `n.yaml` — creating / renaming onto any of them is creating / renaming onto that DAG —, while `n.yml.yaml`
    is another DAG; for ANY `n` the spellings `n.yml` and `n.yaml` denote the same file; a resolved file denotes itself. -/
theorem C18_names_alias (n : List Char) :
    ((∀ c ∈ n, c ≠ '.') → resolve n = n ++ yamlExt ∧ resolve (n ++ ymlExt) = resolve n ∧ resolve (n ++ yamlExt) = resolve n ∧
        resolve (n ++ ymlExt ++ yamlExt) ≠ resolve n) ∧
    resolve (n ++ ymlExt) = resolve (n ++ yamlExt) ∧ resolve (resolve n) = resolve n := by
  refine ⟨fun h => ?_, by rw [resolve_yml, resolve_yaml], resolve_idem n⟩
  rw [resolve_bare n h, resolve_yml, resolve_yaml, resolve_yaml]
  refine ⟨rfl, rfl, rfl, ?_⟩
  rw [List.append_assoc]
  intro e
  have := List.append_cancel_left e
  revert this; decide

/-- **C18 (names ↦ model names).** Two spellings of a case get the same abstract name iff they denote the same file. -/
theorem C18_names_key (sps : List (List Char)) (i j : Nat) (si sj : List Char)
    (hi : sps[i]? = some si) (hj : sps[j]? = some sj) :
    keyOf sps i = keyOf sps j ↔ resolve si = resolve sj := by
  simp only [keyOf, hi, hj]
  constructor
  · intro h
    have mi : resolve si ∈ sps.map resolve := List.mem_map.mpr ⟨si, List.mem_of_getElem? hi, rfl⟩
    have mj : resolve sj ∈ sps.map resolve := List.mem_map.mpr ⟨sj, List.mem_of_getElem? hj, rfl⟩
    have a := get_firstIdx _ _ mi
    have b := get_firstIdx _ _ mj
    rw [h] at a
    rw [a] at b
    exact Option.some.inj b
  · intro h; rw [h]

/-- **C18 (names: the client finds what the store files).** `dagStore.Find` (fixed `find`, F50) reaches, for EVERY
    spelling, the file the store reads / writes for it, and every file it probes before that one is a file the
    store never writes (no name resolves to it — in particular never `x.yml`); so the client's rename looks both
    names up like the store does (`srcLit = dstLit = false` in `renameSp`). Before F50 a `.yml` spelling was
    probed literally only and missed its file (`findsOwnFilePre`, the regression witness). -/
theorem C18_names_literal (s : List Char) :
    findsOwnFile s = true ∧
    (∃ pre post, findCandidates s = pre ++ resolve s :: post ∧ ∀ c ∈ pre, ∀ t, resolve t ≠ c) ∧
    findsOwnFilePre (s ++ ymlExt) = false :=
  ⟨findsOwnFile_true s, find_first_hit s, findsOwnFilePre_yml s⟩

/-- the world unchanged / the half-done branch before F50 (definition moved, history not, error answered) / done -/
theorem renameSp_cases (w : World) (a b : Nat) (sl dl : Bool) :
    (∃ r, renameSp w a b sl dl = (w, r) ∧ (a ≠ b → exists? w b = true → r = .err)) ∨
    (∃ t, a ≠ b ∧ exists? w b = false ∧ dl = true ∧ renameSp w a b sl dl = (setDef (dropDef w a) b t, .err)) ∨
    (∃ t, a ≠ b ∧ exists? w b = false ∧
      renameSp w a b sl dl = ({ (setDef (dropDef w a) b t) with hist := Hist.rename w.hist a b }, .ok)) := by
  rw [renameSp]
  cases sl
  case true => exact Or.inl ⟨_, rfl, fun _ _ => rfl⟩
  rw [if_neg Bool.false_ne_true]
  cases lookup w a with
  | none => exact Or.inl ⟨_, rfl, fun _ _ => rfl⟩
  | some t =>
    dsimp only
    by_cases hab : a = b
    · exact Or.inl ⟨_, if_pos hab, fun h => absurd hab h⟩
    · rw [if_neg hab]
      cases hb : exists? w b with
      | true => exact Or.inl ⟨_, if_pos rfl, fun _ _ => rfl⟩
      | false =>
        rw [if_neg Bool.false_ne_true]
        cases dl with
        | true => exact Or.inr (Or.inl ⟨t, hab, rfl, rfl, if_pos rfl⟩)
        | false => exact Or.inr (Or.inr ⟨t, hab, rfl, if_neg Bool.false_ne_true⟩)

/-- **C18 (rename with spelled names never overwrites).** Whatever the spellings of the two names: a rename onto
    ANOTHER existing DAG is refused and changes nothing; a rename onto (another spelling of) the DAG itself changes
    nothing; no third DAG's definition or history is ever touched; for spellings the client looks up like the store
    (`srcLit = dstLit = false` — every spelling after F50, `C18_names_literal`) it is `Defs.rename`, so `C18_rename`
    applies; and with such a TARGET spelling a refused rename changes nothing at all. -/
theorem C18_rename_spelled (w : World) (a b : Nat) (sl dl : Bool) :
    (a ≠ b → exists? w b = true → renameSp w a b sl dl = (w, .err)) ∧
    (a = b → (renameSp w a b sl dl).1 = w) ∧
    (∀ m, m ≠ a → m ≠ b → lookup (renameSp w a b sl dl).1 m = lookup w m ∧
        filesOf (renameSp w a b sl dl).1.hist m = filesOf w.hist m) ∧
    (a ≠ b → renameSp w a b false false = Defs.rename w a b) ∧
    (dl = false → (renameSp w a b sl dl).2 = .err → (renameSp w a b sl dl).1 = w) := by
  have h4 : a ≠ b → renameSp w a b false false = Defs.rename w a b := fun hab => by
    unfold renameSp Defs.rename
    cases lookup w a <;> simp [hab]
  rcases renameSp_cases w a b sl dl with ⟨r, e, hr⟩ | ⟨t, hab, hb, hd, e⟩ | ⟨t, hab, hb, e⟩ <;> rw [e]
  · exact ⟨fun hab hb => by rw [hr hab hb], fun _ => rfl, fun _ _ _ => ⟨rfl, rfl⟩, h4, fun _ _ => rfl⟩
  · exact ⟨fun _ hb' => absurd (hb.symm.trans hb') nofun, fun e' => absurd e' hab,
      fun m hma hmb => ⟨lookup_move w t hma hmb, rfl⟩, h4, fun hd' => absurd (hd.symm.trans hd') nofun⟩
  · exact ⟨fun _ hb' => absurd (hb.symm.trans hb') nofun, fun e' => absurd e' hab,
      fun m hma hmb => ⟨lookup_move w t hma hmb, filesOf_apply w.hist (.rename a b) m (by simp [touches, hma, hmb])⟩,
      h4, fun _ => nofun⟩

/-- **C18 (a rename that reports failure has changed nothing).** The full-strength reading, for the client's rename
    as the code is (every spelling is looked up like the store does, `C18_names_literal`): an error answer means the
    world — every definition, every history — is exactly what it was. -/
theorem C18_rename_refusal_full (w : World) (a b : Nat) :
    (renameSp w a b false false).2 = .err → (renameSp w a b false false).1 = w :=
  by obtain ⟨-, -, -, -, h⟩ := C18_rename_spelled w a b false false; exact h rfl

/-- regression witness (F50, fixed by 8b26466): with the PRE-fix lookup of a target typed `.yml` (`dstLit = true`) the
    statement fails — DAG 0 exists, name 1 is free: the definition moves although the answer is an error (and the
    history stays behind: `renameSp` leaves `hist` alone in that branch). -/
example : ¬ ∀ (w : World) (a b : Nat) (sl dl : Bool), (renameSp w a b sl dl).2 = .err → (renameSp w a b sl dl).1 = w := by
  intro h
  have := h { defs := [(0, 5)] } 0 1 false true (by decide)
  revert this; decide

end BdModel.P18

#print axioms BdModel.P18.C18_create
#print axioms BdModel.P18.C18_save
#print axioms BdModel.P18.C18_save_atomic
#print axioms BdModel.P18.C18_rename
#print axioms BdModel.P18.C18_delete
#print axioms BdModel.P18.C18_names_alias
#print axioms BdModel.P18.C18_names_key
#print axioms BdModel.P18.C18_names_literal
#print axioms BdModel.P18.C18_rename_spelled
#print axioms BdModel.P18.C18_rename_refusal_full
