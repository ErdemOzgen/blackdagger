import BdModel.Proofs.Params
/-
  C11 — parameters and step outputs reach the steps that use them, unchanged.

  Documented parameter syntax = `render` of a list of `Item`s (bare word, "quoted value", NAME=value,
  NAME="quoted value"; `\"` for a quote inside quotes), `Item.ok` = well-formed:
    word  : non-empty, no white space ([\t\n\f\r ]), no '"', does not begin with '`'
            (an unnamed bare word also has no '=')
    name  : non-empty, no white space, no '='
    quoted value : ANY characters, except that it cannot END with a backslash (not expressible:
            the syntax has no escape for '\', so `"…\"` reads as an escaped quote)
  The statements are about `parse` = parseParamValue without command substitution; '`…`' and '$VAR'
  inside values are substitution syntax of the evaluating load path, not literal values.
-/
namespace BdModel.P11
open BdModel.Params

/-! ## parameters: what the steps see -/

/-- **C11 (parameters, full).** Every well-formed parameter string is parsed to exactly the intended
    (name, value) list. -/
def param_exact_full : Prop :=
  ∀ is : List Item, (∀ i ∈ is, i.ok = true) → parse (render is) = intended is

/-- regression (F14a, fixed by e247fb2): `"x\""` is the value `x"` (it used to be read as `x\`). -/
theorem param_regression_F14a : parse (render [.quoted ['x', '"']]) = [([], ['x', '"'])] := by decide
/-- F14b: `"a=b"` is parsed to the NAMED parameter `"a` = `b` — the `name=` group matches inside the quotes. -/
theorem param_witness_F14b : parse (render [.quoted ['a', '=', 'b']]) = [(['"', 'a'], ['b'])] := by decide

/-- **refuted** on the code as it is (F14b). -/
theorem param_exact_full_refuted : ¬ param_exact_full := by
  intro h
  have := h [.quoted ['a', '=', 'b']] (by decide)
  rw [param_witness_F14b] at this
  revert this; decide

/-- **C11 (parameters, partial) — for ALL item lists.** Outside the one excluded class (`Item.safe`:
    an unnamed quoted value with '=' before its first white space, F14b) every
    well-formed parameter string is parsed to exactly the intended names and values — values with
    spaces, quotes, '=', newlines, any Unicode included. -/
theorem param_exact_partial (is : List Item) (hok : ∀ i ∈ is, i.ok = true) (hsafe : ∀ i ∈ is, i.safe = true) :
    parse (render is) = intended is := by
  simp only [parse, tokenize, tokenizeFuel_render is _ hok hsafe (Nat.le_refl _), intended, List.map_map]
  exact List.map_congr_left fun i hi => by simp [Function.comp, unquote_item i (hok i hi)]

/-- … hence `$1…$n` are the values (resp. `NAME=value`) in order, and `$NAME` the named values. -/
theorem param_seen_partial (is : List Item) (hok : ∀ i ∈ is, i.ok = true) (hsafe : ∀ i ∈ is, i.safe = true) :
    positional (render is) = (intended is).map stringify ∧
    named (render is) = (intended is).filter (fun pr => pr.1 ≠ []) := by
  simp [positional, dagParams, named, param_exact_partial is hok hsafe]

/-! ## restart / retry: the recorded string is re-parsed -/

/-- **C11 (restart/retry re-use the parameters, full).** Re-parsing the recorded parameter string
    (model.Params of DAG.Params) gives the parameters of the run that is repeated — for EVERY string. -/
def roundtrip_full : Prop := ∀ p : Str, parse (recorded p) = parse p

/-- still refuted, by an input outside the documented syntax only: the bare word `a=` (a name with nothing
    after the '=') is the positional value `a=`; it is recorded as `a=""` and comes back as the named
    parameter `a` with an empty value (the text `a=` of a real `a=""` is indistinguishable from it). -/
theorem roundtrip_witness_bare_eq :
    parse ['a', '='] = [([], ['a', '='])] ∧ parse (recorded ['a', '=']) = [(['a'], [])] := by decide

theorem roundtrip_full_refuted : ¬ roundtrip_full := by
  intro h
  have := h ['a', '=']
  rw [roundtrip_witness_bare_eq.1, roundtrip_witness_bare_eq.2] at this
  revert this; decide

/-- F14c (open; same input shape as F14b): the unnamed quoted value `|=` is read correctly at start, but its
    recorded text `|=` is taken for NAME= by the recorder (`|=""`) and comes back as the named parameter `|`.
    `roundOk` excludes exactly this: an unnamed value recorded unquoted must hold no '='. -/
theorem roundtrip_witness_F14c :
    parse (render [.quoted ['|', '=']]) = [([], ['|', '='])] ∧
    parse (recorded (render [.quoted ['|', '=']])) = [(['|'], [])] ∧ roundOk ([], ['|', '=']) = false := by decide

/-- **C11 (restart/retry) — for EVERY list of parameters** (name, value) satisfying `roundOk` — name empty or
    well-formed; a value recorded quoted (empty, or white space / '"' inside) does not end with a backslash and,
    if unnamed, has no '=' before its first white space (F14b); a value recorded unquoted is one word — the
    recorded string re-parses to exactly that list. -/
theorem roundtrip_pairs (ps : List (Str × Str)) (h : ∀ pr ∈ ps, roundOk pr = true) :
    parse (join (ps.map stringify)) = ps := by
  -- the recorded text is the rendering of the items `toItem` makes of the pairs; then `param_exact_partial`
  have : join (ps.map stringify) = render (ps.map toItem) := by
    simp only [render_eq_joinSp, join, List.map_map]
    exact congrArg joinSp (List.map_congr_left fun pr hp => let ⟨_, _, hrender⟩ := toItem_spec pr (h pr hp); hrender)
  rw [this, param_exact_partial _ (List.forall_mem_map.mpr fun pr hp => let ⟨hok, _, _⟩ := toItem_spec pr (h pr hp); hok)
    (List.forall_mem_map.mpr fun pr hp => let ⟨_, hsafe, _⟩ := toItem_spec pr (h pr hp); hsafe)]
  simp [intended, Function.comp_def, toItem_intended]

/-- … applied to a run: `recorded p` is model.Params of the parameters `parse p` gave. -/
theorem roundtrip_partial (p : Str) (h : ∀ pr ∈ parse p, roundOk pr = true) : parse (recorded p) = parse p :=
  roundtrip_pairs (parse p) h

/-- … in terms of the documented syntax: a retry/restart of a run started with `render is` sees exactly the
    intended parameters — values with spaces, quotes, '=', empty values included. -/
theorem retry_params_partial (is : List Item) (hok : ∀ i ∈ is, i.ok = true) (hsafe : ∀ i ∈ is, i.safe = true)
    (hst : ∀ i ∈ is, roundOk i.intended = true) : parse (recorded (render is)) = intended is := by
  have hp := param_exact_partial is hok hsafe
  rw [roundtrip_partial _ (by rw [hp]; exact List.forall_mem_map.mpr hst), hp]

/-- regression (F13, fixed by 0f8580b): `"a b"` is recorded as `"a b"` and comes back as ONE parameter;
    an empty value and a value with a quote survive as well. -/
theorem roundtrip_regression_F13 :
    recorded ['"', 'a', ' ', 'b', '"'] = ['"', 'a', ' ', 'b', '"'] ∧
    parse (recorded ['"', 'a', ' ', 'b', '"']) = [([], ['a', ' ', 'b'])] ∧
    parse (recorded ['N', '=', '"', '"', ' ', '"', 'x', '\\', '"', 'y', '"']) = [(['N'], []), ([], ['x', '"', 'y'])] := by decide

/-- the quotes the API client wraps around the parameter string are exactly the ones `start` removes;
    the string itself is unchanged when it holds no CR / LF. -/
theorem start_passes_params (p : Str) (h : ∀ c ∈ p, c ≠ '\r' ∧ c ≠ '\n') : viaStart p = p := by
  unfold viaStart
  rw [removeQuotes_wrap, escapeArg_id p h]

/-- **C11 (parameters typed after `start -p`, full).** `start` hands the given string to the loader. -/
def start_cli_full : Prop := ∀ p : Str, removeQuotes p = p

/-- F43: the single parameter `"a b"` typed as the `-p` argument loses its quotes and becomes two parameters. -/
theorem start_cli_witness :
    parse (removeQuotes (render [.quoted ['a', ' ', 'b']])) = [([], ['a']), ([], ['b'])] := by decide

theorem start_cli_full_refuted : ¬ start_cli_full := by
  intro h; have := h ['"', 'a', ' ', 'b', '"']; revert this; decide

/-- partial: a string that does not both begin and end with a double quote is handed on unchanged. -/
theorem start_cli_partial (p : Str) (h : p.head? ≠ some '"' ∨ p.getLast? ≠ some '"') : removeQuotes p = p := by
  cases p with
  | nil => rfl
  | cons c r =>
    simp only [removeQuotes]
    by_cases hc : r ≠ [] ∧ c = '"' ∧ r.getLast? = some '"'
    · obtain ⟨hr, hq, hl⟩ := hc
      rcases h with h | h
      · simp [hq] at h
      · rw [List.getLast?_cons_of_ne_nil hr] at h; exact absurd hl h
    · simp only [hc, if_false]

/-- **C11 (capture).** The captured value is the printed text with all leading and trailing white space
    removed and nothing else changed: `out = pre ++ capture out ++ post`, `pre`/`post` white space only,
    and the value neither begins nor ends with white space. -/
theorem capture_trim (out : Str) : ∃ pre post, out = pre ++ capture out ++ post ∧
    pre.all goSpace = true ∧ post.all goSpace = true ∧
    (∀ c, (capture out).head? = some c → goSpace c = false) ∧
    (∀ c, (capture out).getLast? = some c → goSpace c = false) := by
  obtain ⟨post, h4, h5, h6⟩ := dropTrailSp_spec (out.dropWhile goSpace)
  refine ⟨out.takeWhile goSpace, post, ?_, List.all_takeWhile, h5, fun c hc => ?_, h6⟩
  · unfold capture trimSpace
    rw [List.append_assoc, ← h4, List.takeWhile_append_dropWhile]
  · have := List.head?_dropWhile_not goSpace out
    unfold capture trimSpace at hc
    rw [h4] at this
    cases hd : dropTrailSp (List.dropWhile goSpace out) with
    | nil => rw [hd] at hc; simp at hc
    | cons d r =>
      rw [hd] at hc this
      simp only [List.head?_cons, Option.some.injEq] at hc
      simpa [hc] using this

/-- **C11 (capture, several executions).** Whatever earlier attempts of the producing step printed, the value is
    the trimmed stdout of its last execution. -/
theorem capture_last_attempt (earlier : List Str) (last : Str) : captureRun (earlier ++ [last]) = capture last := by
  simp [captureRun]

/-- **C11 (restore on retry).** The value handed back to the environment from the stored `NAME=value`
    is exactly the captured value — whatever it contains ('=' included). -/
theorem restore_exact (name out : Str) : restore name (stored name out) = capture out := by
  simp [restore, stored, List.drop_append]

/-- **C11 (visibility).** After the producer finished, every process started later in the run — steps,
    handlers, and (the map being recorded and re-used) a retry — sees `$NAME` = the captured value,
    unless a later step captured into the same name. -/
theorem output_visible (m : OutMap) (d : Done) (later : List Done) (hn : d.name ≠ [])
    (hl : ∀ e ∈ later, e.name ≠ d.name) :
    seen (afterSteps m (d :: later)) d.name = some (capture d.out) := by
  unfold seen
  simp only [afterSteps, hn, if_false]
  rw [afterSteps_keeps later _ d.name (stored d.name d.out) (get_store_same _ _ _) hl]
  simp [restore_exact]

/-- **C11 (retry of a run that never wrote its final record).** Every record of a run carries the output map as it is
    when the record is written (agent.Status copies it into every node), i.e. the map after SOME prefix of the steps that
    finish after the producer; a retry reads the LAST WRITTEN record, which is the final one only if the agent lived to
    write it (it did not if it was killed).  Restoring from ANY record written after the producer finished — however
    many (`k`) of the later steps had finished by then — yields the captured value. -/
theorem output_visible_any_record (m : OutMap) (d : Done) (later : List Done) (k : Nat) (hn : d.name ≠ [])
    (hl : ∀ e ∈ later, e.name ≠ d.name) :
    seen (afterSteps m (d :: later.take k)) d.name = some (capture d.out) :=
  output_visible m d (later.take k) hn (fun e he => hl e (List.mem_of_mem_take he))

/-- **C11 (precedence).** A captured output wins over everything else that carries the same name — the agent's own
    environment, a named parameter, a DAG-level `env:` entry (step.Variables), an earlier output under that name: after
    the producer finished every later process sees the captured value, whatever `proc`, `vars`, `ctx` hold. -/
theorem output_precedence (proc vars ctx : EnvList) (m : OutMap) (d : Done) (later : List Done) (hn : d.name ≠ [])
    (hl : ∀ e ∈ later, e.name ≠ d.name) :
    childSees proc vars ctx (afterSteps m (d :: later)) d.name = some (capture d.out) := by
  unfold childSees
  rw [output_visible m d later hn hl]

/-- … and a name no step has captured is looked up in the rest, last entry first. -/
theorem no_output_falls_through (proc vars ctx : EnvList) (m : OutMap) (k : Str) (h : m.get k = none) :
    childSees proc vars ctx m k = lookupLast (proc ++ vars ++ ctx) k := by
  simp [childSees, seen, h]

/-- **C11 (the value arrives) — full statement, every size.** Whatever the capacity of the capture pipe and
    however much the step prints, the producing step ends (the pipe is drained while the command runs),
    and the stored value can be handed to every later process as long as `NAME=value` stays below the
    kernel's limit for one environment string (E2BIG) — the only hypothesis. -/
theorem output_arrives (cap : Nat) (name out : Str) (h : byteLen (stored name out) + 1 ≤ envLimit) :
    stepEnds cap (byteLen out) = true ∧ laterExecOk name out = true := by
  simp [stepEnds, drained, laterExecOk, h]

/-- regression (F15, fixed by 5e4d4e2): 65537 bytes through a 65536-byte pipe. -/
example : stepEnds 65536 65537 = true := by decide

/-! non-vacuity -/
def exItems : List Item :=
  [.bare ['x'], .quoted ['y', ' ', '"', 'z', '=', '1', '"'], .named ['K'] ['v', '=', 'w'], .namedQ ['K', '2'] ['a', '=', 'b', ' ', 'c']]
example : (∀ i ∈ exItems, i.ok = true) ∧ (∀ i ∈ exItems, i.safe = true) := by decide
example : parse (render exItems) = intended exItems := by decide
example : roundOk ([], ['a', ' ', '"']) = true ∧ roundOk (['K'], ['v', '=', 'w']) = true ∧ roundOk (['K'], []) = true := by decide
example : ∀ i ∈ exItems, roundOk i.intended = true := by decide
example : capture [' ', '\n', 'a', ' ', '=', 'b', '\t', '\n'] = ['a', ' ', '=', 'b'] := by decide

end BdModel.P11

#print axioms BdModel.P11.param_exact_full_refuted
#print axioms BdModel.P11.param_witness_F14b
#print axioms BdModel.P11.param_exact_partial
#print axioms BdModel.P11.param_seen_partial
#print axioms BdModel.P11.roundtrip_full_refuted
#print axioms BdModel.P11.roundtrip_witness_F14c
#print axioms BdModel.P11.roundtrip_pairs
#print axioms BdModel.P11.roundtrip_partial
#print axioms BdModel.P11.roundtrip_regression_F13
#print axioms BdModel.P11.retry_params_partial
#print axioms BdModel.P11.start_passes_params
#print axioms BdModel.P11.start_cli_full_refuted
#print axioms BdModel.P11.start_cli_partial
#print axioms BdModel.P11.capture_trim
#print axioms BdModel.P11.capture_last_attempt
#print axioms BdModel.P11.restore_exact
#print axioms BdModel.P11.output_visible
#print axioms BdModel.P11.output_visible_any_record
#print axioms BdModel.P11.output_precedence
#print axioms BdModel.P11.no_output_falls_through
#print axioms BdModel.P11.output_arrives
#print axioms BdModel.P11.param_regression_F14a
