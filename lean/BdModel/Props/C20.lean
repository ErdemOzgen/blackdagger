import BdModel.Proofs.Api
/-
  C20 — control actions through the API respect the state of the run.
  `Api.post` transcribes handler.postAction (model: BdModel/Api/Actions.lean).  Every statement is
  for ALL worlds (any DAGs, any histories, any live runs), all DAG ids and all request bodies.
-/
namespace BdModel.P20
open BdModel.Api

def isEdit (a : Action) : Prop := a = .markSuccess ∨ a = .markFailed
-- scheduler.NodeStatus the action sets: 2 = error (mark-failed), 4 = success (mark-success)
def editTarget : Action → Nat
  | .markFailed => 2
  | _ => 4

/- `fun_cases Api.edit …` / `fun_cases Api.post …` leave one goal per branch of the definition, named `case1`, `case2`, … in
   the order of the branches (nested matches and ifs flattened, counted from 1):
   edit: 1 no request id, 2 no step name, 3 live run, 4 no run with that id, 5 index out of range, 6 step not found,
     7 accepted.
   post: 1 no action, 2 save of a definition that does not parse, 3 save without a file, 4 save accepted, 5 no definition,
     6 definition does not load, 7 start with a live run, 8 start accepted, 9 suspend, 10 stop accepted, 11 stop without a
     live run, 12 retry without request id, 13 retry accepted, 14 mark-success, 15 mark-failed, 16 rename without a name,
     17 rename onto itself, 18 rename onto an existing name, 19 rename accepted, 20 save once more (unreachable),
     21 unknown action. -/
theorem edit_bad (w : World) (d : Nat) (b : Body) (to : Nat)
    (h : b.requestId = 0 ∨ b.step = 0 ∨ (w.live d).isSome = true) : edit w d b to = (w, bad) := by
  fun_cases edit w d b to
  -- the three guards answer 400
  case case1 | case2 | case3 => rfl
  -- past them none of the three holds
  all_goals (rcases h with h | h | h <;> contradiction)

/-- the `(w, bad)` case: the definition does not load (`GetStatus` fails before the action is looked at) -/
theorem post_edit (w : World) (d : Nat) (b : Body) (a : Action) (ha : b.action = some a) (he : isEdit a) :
    post w d b = (w, bad) ∨ post w d b = edit w d b (editTarget a) := by
  unfold post
  rcases he with rfl | rfl <;> simp only [ha]
  all_goals
    split
    · exact .inl rfl
    · split
      · exact .inl rfl
      · exact .inr rfl

/-- the guards of `post` on the state of the run: start and status edits want no live run, stop wants one -/
theorem post_refused (w : World) (d : Nat) (b : Body) (a : Action) (ha : b.action = some a)
    (hg : ((a = .start ∨ isEdit a) ∧ (w.live d).isSome = true) ∨ (a = .stop ∧ w.live d = none)) :
    post w d b = (w, bad) := by
  rcases hg with ⟨rfl | he, hl⟩ | ⟨rfl, hl⟩
  · unfold post
    simp only [ha]
    repeat' split
    all_goals simp_all
  · rcases post_edit w d b a ha he with h | h <;> rw [h]
    exact edit_bad w d b _ (.inr (.inr hl))
  · unfold post
    simp only [ha]
    repeat' split
    all_goals simp_all

/-- **start is refused while the DAG is running** (4xx, nothing changes, nothing is spawned). -/
theorem start_refused_when_running (w : World) (d : Nat) (b : Body)
    (hl : (w.live d).isSome = true) (ha : b.action = some .start) :
    400 ≤ (post w d b).2.code ∧ (post w d b).1 = w := by
  rw [post_refused w d b _ ha (.inl ⟨.inl rfl, hl⟩)]
  exact ⟨Nat.le_refl _, rfl⟩

/-- **stop is refused when the DAG is not running.** -/
theorem stop_refused_when_not_running (w : World) (d : Nat) (b : Body)
    (hl : w.live d = none) (ha : b.action = some .stop) :
    400 ≤ (post w d b).2.code ∧ (post w d b).1 = w := by
  rw [post_refused w d b _ ha (.inr ⟨rfl, hl⟩)]
  exact ⟨Nat.le_refl _, rfl⟩

/-- **status edits are refused while the DAG is running.** -/
theorem edit_refused_when_running (w : World) (d : Nat) (b : Body) (a : Action)
    (hl : (w.live d).isSome = true) (ha : b.action = some a) (he : isEdit a) :
    400 ≤ (post w d b).2.code ∧ (post w d b).1 = w := by
  rw [post_refused w d b a ha (.inl ⟨.inr he, hl⟩)]
  exact ⟨Nat.le_refl _, rfl⟩

theorem edit_unchanged_or_ok (w : World) (d : Nat) (b : Body) (to : Nat) :
    (edit w d b to).1 = w ∨ (edit w d b to).2.code = 200 := by
  fun_cases edit w d b to
  -- the accepted edit answers 200
  case case7 => exact .inr rfl
  -- every refusal leaves the world alone
  all_goals exact .inl rfl

theorem post_unchanged_or_ok (w : World) (d : Nat) (b : Body) :
    (post w d b).1 = w ∨ (post w d b).2.code = 200 := by
  fun_cases post w d b
  -- accepted save, start, suspend, stop, retry, rename (also onto itself) answer 200
  case case4 | case8 | case9 | case10 | case13 | case17 | case19 => exact .inr rfl
  -- status edits
  case case14 | case15 => exact edit_unchanged_or_ok w d b _
  -- every refusal leaves the world alone
  all_goals exact .inl rfl

/-- **a refused or malformed action changes nothing**: whatever the action, arguments and state,
    a response ≥ 400 leaves the whole world (definitions, flags, every history, spawn log) as it was. -/
theorem refused_changes_nothing (w : World) (d : Nat) (b : Body)
    (h : 400 ≤ (post w d b).2.code) : (post w d b).1 = w := by
  rcases post_unchanged_or_ok w d b with h1 | h1
  · exact h1
  · rw [h1] at h; omega

/-- **malformed requests are 4xx**: missing action, unknown action, retry / edit without request id,
    edit without step name, rename without a new name. -/
theorem malformed_is_4xx (w : World) (d : Nat) (b : Body)
    (hm : b.action = none ∨ b.action = some .unknown ∨
          (b.action = some .retry ∧ b.requestId = 0) ∨
          (∃ a, b.action = some a ∧ isEdit a ∧ (b.requestId = 0 ∨ b.step = 0)) ∨
          (b.action = some .rename ∧ b.target = none)) :
    (post w d b).2.code = 400 := by
  suffices h : post w d b = (w, bad) by rw [h]; rfl
  rcases hm with h | h | ⟨h, hz⟩ | ⟨a, h, he, hz⟩ | ⟨h, hz⟩
  · simp [post, h]
  · unfold post
    simp only [h]
    repeat' split
    all_goals rfl
  · unfold post
    simp only [h]
    repeat' split
    all_goals first | rfl | contradiction
  · rcases post_edit w d b a h he with h1 | h1 <;> rw [h1]
    exact edit_bad w d b _ (hz.elim .inl (.inr ∘ .inl))
  · unfold post
    simp only [h, hz]
    repeat' split
    all_goals rfl

/-- what an accepted edit of world `w` looks like -/
structure EditExact (w w' : World) (d : Nat) (b : Body) (to : Nat) : Prop where
  dags : w'.dags = w.dags
  susp : w'.susp = w.susp
  live : w'.live = w.live
  log : w'.log = w.log
  other : ∀ e, e ≠ d → w'.hist e = w.hist e
  run : ∃ k r i st,
      (w.hist d)[k]? = some r ∧ r.reqId = b.requestId ∧                       -- the addressed run …
      (∀ j, j < k → ∀ r', (w.hist d)[j]? = some r' → r'.reqId ≠ b.requestId) ∧  -- … the newest with that id
      r.nodes[i]? = some (b.step, st) ∧                                        -- the addressed step
      w'.hist d = (w.hist d).set k { correct r with nodes := r.nodes.set i (b.step, to) }

theorem edit_exact_aux (w : World) (d : Nat) (b : Body) (to : Nat) (h : (edit w d b to).2.code = 200) :
    EditExact w (edit w d b to).1 d b to := by
  revert h
  fun_cases edit w d b to
  -- the accepted edit: `findRunIdx` and `lastNodeIdx` found the run and the step they are specified to find
  case case7 k hk r hr i hi =>
    intro _
    obtain ⟨r0, hr0, hq, hnew⟩ := findRunIdx_spec _ _ _ hk
    rw [hr] at hr0; injection hr0 with hr0; subst hr0
    obtain ⟨st, hst, _⟩ := lastNodeIdx_spec _ _ _ hi
    exact { dags := rfl, susp := rfl, live := rfl, log := rfl,
            other := fun e he => by simp [he],
            run := ⟨k, r, i, st, hr, hq, hnew, hst, by simp [editRun]⟩ }
  -- every refusal answers 400 or 500
  all_goals (intro h; simp [bad, err] at h)

/-- **an accepted status edit changes exactly the addressed step of the addressed run**: definitions,
    suspend flags, live runs, the spawn log and every other DAG's history are untouched; in this DAG's
    history only entry `k` (the newest run with the given request id) is replaced, by a record that
    differs from the old one only in node `i` (the step with the given name, set to the requested
    status) and in the running → failed relabel of `correct`. -/
theorem edit_exact (w : World) (d : Nat) (b : Body) (a : Action)
    (ha : b.action = some a) (he : isEdit a) (h : (post w d b).2.code = 200) :
    EditExact w (post w d b).1 d b (editTarget a) := by
  rcases post_edit w d b a ha he with hp | hp <;> rw [hp] at h ⊢
  · cases h
  · exact edit_exact_aux w d b _ h

/-- consequences of `EditExact` read pointwise: every other run, and every other node of the edited
    run, is what it was; time stamp, request id and the rest of the record are kept; the run's status
    changes only by the relabel running(1) → failed(2). -/
theorem edit_exact_pointwise {w w' : World} {d : Nat} {b : Body} {to : Nat} (h : EditExact w w' d b to) :
    (w'.hist d).length = (w.hist d).length ∧
    ∃ (k : Nat) (r r' : Run) (i : Nat), (w.hist d)[k]? = some r ∧ (w'.hist d)[k]? = some r' ∧ r.reqId = b.requestId ∧
      (∀ j, j ≠ k → (w'.hist d)[j]? = (w.hist d)[j]?) ∧
      r'.ts = r.ts ∧ r'.reqId = r.reqId ∧ r'.rest = r.rest ∧
      r'.status = (if r.status = 1 then 2 else r.status) ∧
      r'.nodes.length = r.nodes.length ∧ r'.nodes[i]? = some (b.step, to) ∧
      (∀ j, j ≠ i → r'.nodes[j]? = r.nodes[j]?) := by
  obtain ⟨k, r, i, st, hr, hq, _, hst, hset⟩ := h.run
  have hk : k < (w.hist d).length := (List.getElem?_eq_some_iff.1 hr).1
  have hi : i < r.nodes.length := (List.getElem?_eq_some_iff.1 hst).1
  obtain ⟨hts, hreq, hrest, hstatus⟩ : (correct r).ts = r.ts ∧ (correct r).reqId = r.reqId ∧
      (correct r).rest = r.rest ∧ (correct r).status = (if r.status = 1 then 2 else r.status) := by
    unfold correct; split <;> simp_all
  refine ⟨by rw [hset]; simp, k, r, { correct r with nodes := r.nodes.set i (b.step, to) }, i, hr, ?_, hq, ?_,
    hts, hreq, hrest, hstatus, ?_, ?_, ?_⟩
  · rw [hset]; simp [hk]
  · intro j hj; rw [hset]; simp [Ne.symm hj]
  · simp
  · simp [hi]
  · intro j hj; simp [Ne.symm hj]

/-- **an accepted start hands the given parameters through unchanged**: the only change to the world is
    one `start` command appended to the spawn log, and — for parameters without CR / LF, which
    `escapeArg` rewrites (outside the documented parameter syntax) — the parameter string the spawned
    command passes to the loader after `removeQuotes` is exactly the string given in the request. -/
theorem start_params_unchanged (w : World) (d : Nat) (b : Body)
    (ha : b.action = some .start) (h : (post w d b).2.code = 200) (hp : noLineBreak b.params) :
    ∃ arg, (post w d b).1 = { w with log := w.log ++ [.start d arg] } ∧ received arg = b.params := by
  cases hd : w.dags d with
  | none => simp [post, ha, hd, bad] at h
  | some sp =>
    by_cases hv : (sp.yamlOk && sp.graphOk) = true
    · by_cases hl : (w.live d).isSome = true
      · simp [post, ha, hd, hv, hl, bad] at h
      · have hpost : post w d b = ({ w with log := w.log ++ [.start d (startArg b.params)] }, ok) := by
          simp [post, ha, hd, hv, hl]
        exact ⟨startArg b.params, by rw [hpost], received_startArg _ hp⟩
    · simp [post, ha, hd, hv, bad] at h

/-- … and CR / LF are indeed rewritten (why `noLineBreak` is a hypothesis): "a\nb" arrives as "a\\nb". -/
example : received (startArg [97, 10, 98]) = [97, 92, 110, 98] := by decide

/-! ### non-vacuity: a world with a finished and a crashed run, a live DAG, and accepted / refused actions -/

def w0 : World :=
  { dags := fun d => if d < 2 then some { id := d + 1 } else none
    susp := fun _ => false
    live := fun d => if d = 1 then some 7 else none
    hist := fun d => if d = 0 then [{ ts := 9, reqId := 5, status := 1, nodes := [(1, 4), (2, 1)], rest := 0 },
                                   { ts := 3, reqId := 4, status := 4, nodes := [(1, 4), (2, 4)], rest := 1 }] else []
    log := [] }

example : (post w0 1 { action := some .start }).2.code = 400 := by decide           -- running
example : (post w0 0 { action := some .stop }).2.code = 400 := by decide            -- not running
example : (post w0 1 { action := some .stop }).2.code = 200 := by decide
example : (post w0 1 { action := some .markFailed, requestId := 7, step := 1 }).2.code = 400 := by decide
example : (post w0 0 { action := some .markSuccess, requestId := 5, step := 2 }).2.code = 200 := by decide
example : ((post w0 0 { action := some .markSuccess, requestId := 5, step := 2 }).1.hist 0) =
    [{ ts := 9, reqId := 5, status := 2, nodes := [(1, 4), (2, 4)], rest := 0 },   -- crashed run relabelled failed
     { ts := 3, reqId := 4, status := 4, nodes := [(1, 4), (2, 4)], rest := 1 }] := by decide
example : (post w0 0 { action := some .markSuccess, requestId := 6, step := 2 }).2.code = 500 := by decide
example : (post w0 0 { action := some .markSuccess, requestId := 5, step := 3 }).2.code = 400 := by decide
example : (post w0 0 { action := some .start, params := [120, 32, 34, 121, 34] }).1.log =
    [.start 0 (some [34, 120, 32, 34, 121, 34, 34])] := by decide
example : (post w0 5 { action := some .start }).2.code = 400 := by decide           -- no such DAG
example : (post w0 0 { action := some .rename, target := some 3 }).1.dags 3 = some { id := 1 } := by decide

end BdModel.P20

#print axioms BdModel.P20.start_refused_when_running
#print axioms BdModel.P20.stop_refused_when_not_running
#print axioms BdModel.P20.edit_refused_when_running
#print axioms BdModel.P20.refused_changes_nothing
#print axioms BdModel.P20.malformed_is_4xx
#print axioms BdModel.P20.edit_exact
#print axioms BdModel.P20.edit_exact_pointwise
#print axioms BdModel.P20.start_params_unchanged
