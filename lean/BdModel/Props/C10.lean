import BdModel.Proofs.RetryClosure
import BdModel.Proofs.Sched.Limit
import BdModel.Proofs.Sched.Termination
import BdModel.Proofs.Sched.Outcome
/-
  C10 — retry re-executes exactly the unfinished part of a recorded run.
  Quantification: every number of steps `n`, every edge list `es` of an acyclic dependency graph
  (multiplicities allowed), EVERY recorded status vector `st` (also vectors no run can leave behind),
  every recorded retry/done counts, and — for the statements about the retry run — every
  interleaving of the fine-grained scheduler system started from the vector `setupRetry` produces.
-/
namespace BdModel.P10
open BdModel.Retry BdModel.Sched

/-- a step the record does not show completed: failed, canceled, still running (killed process) or
    never started -/
def Unfinished (x : NStatus) : Prop := x = .error ∨ x = .cancel ∨ x = .running ∨ x = .none

theorem resetSet_iff (x : NStatus) : resetSet x = true ↔ Unfinished x := by
  cases x <;> simp [resetSet, Unfinished]

-- `hv` is not needed by the proof (the statement is the one DESIGN.md and MANIFEST.json cite)
set_option linter.unusedVariables false in
/-- **C10 (what is reset).** `setupRetry` resets a step iff the record shows it failed, canceled,
    still running (killed process) or not started, or it lies downstream of such a step. The walk's fuel `n + 1`
    suffices (the frontier drains), so this is the result of the real unbounded loop. -/
theorem C10_reset (n : Nat) (es : List (Nat × Nat)) (st : Nat → NStatus) (hg : GoodGraph n es) (v : Nat) (hv : v < n) :
    ((setupRetry n es st resetSet).1.cleared v = true ↔
      ∃ u, u < n ∧ Unfinished (st u) ∧ Reaches es u v) ∧
    (setupRetry n es st resetSet).2 = [] := by
  refine ⟨?_, setupRetry_drained n es st resetSet hg⟩
  simp only [cleared_iff_retry n es st resetSet hg v, retry_iff_closure n es st resetSet hg v, resetSet_iff]

/-- **C10 (what the retry run starts from).** Every step that is unfinished in the record (failed,
    canceled, running, never started) or downstream of an unfinished one starts the retry run as
    `not started` with FRESH counters (retry count and done count zero: its full retry budget — since
    fix 58ed5db also for a step recorded `not started`, F45), i.e. it is (re-)executed under the
    ordinary scheduling rules (C01, C02, C03 apply to it); every other step starts with its recorded
    state. -/
theorem C10_start (n : Nat) (es : List (Nat × Nat)) (st : Nat → NStatus) (rc dc : Nat → Nat)
    (hg : GoodGraph n es) (v : Nat) (hv : v < n) :
    let s0 := initRetry n es st rc dc resetSet
    ((∃ u, u < n ∧ Unfinished (st u) ∧ Reaches es u v) → (s0.nd v) = {}) ∧
    ((¬ ∃ u, u < n ∧ Unfinished (st u) ∧ Reaches es u v) →
        (st v = .success ∨ st v = .skipped) ∧
        (s0.nd v).status = st v ∧ (s0.nd v).retry = rc v ∧ (s0.nd v).doneCnt = dc v) := by
  intro s0
  have hc := (C10_reset n es st hg v hv).1
  refine ⟨fun h => initRetry_nd_cleared hv (hc.2 h), fun h => ?_⟩
  have hk : s0.nd v = { status := st v, retry := rc v, doneCnt := dc v } :=
    initRetry_nd_kept hv (Bool.eq_false_iff.2 fun hx => h (hc.1 hx))
  refine ⟨?_, by rw [hk], by rw [hk], by rw [hk]⟩
  -- a step that is not reset is not unfinished itself
  have : ¬ Unfinished (st v) := fun hu => h ⟨v, hv, hu, Relation.ReflTransGen.refl⟩
  revert this
  cases st v <;> simp [Unfinished]

/-- **C10 (no orphan).** After `setupRetry` no step is left `running` without a worker — the state that
    made the pinned tree's retry spin for ever (finding F11, fixed by 5b4cd49). -/
theorem C10_no_orphan (n : Nat) (es : List (Nat × Nat)) (st : Nat → NStatus) (rc dc : Nat → Nat)
    (hg : GoodGraph n es) (v : Nat) (hv : v < n) :
    ((initRetry n es st rc dc resetSet).nd v).status ≠ .running := by
  have h := C10_start n es st rc dc hg v hv
  by_cases hex : ∃ u, u < n ∧ Unfinished (st u) ∧ Reaches es u v
  · rw [h.1 hex]
    exact nofun
  · obtain ⟨hk, hs, -⟩ := h.2 hex
    rw [hs]
    rcases hk with hk | hk <;> simp [hk]

/-- **C10 (kept steps are left alone).** In EVERY interleaving of the retry run, a step that is
    recorded finished or skipped and is not reset is never executed, has no worker, and keeps its
    recorded state. -/
theorem C10_kept (c : Cfg) (n : Nat) (es : List (Nat × Nat)) (st : Nat → NStatus) (rc dc : Nat → Nat)
    (i : Nat) (hi : i < n) (hk : st i = .success ∨ st i = .skipped)
    (hnc : (setupRetry n es st resetSet).1.cleared i = false)
    (s : State) (h : ReachFrom c (initRetry n es st rc dc resetSet) s) :
    (s.nd i).execs = 0 ∧ (s.nd i).status = st i ∧ (s.nd i).pc = .idle := by
  have h0 : Frozen st i (initRetry n es st rc dc resetSet) := by
    refine ⟨?_, ?_, ?_, ?_⟩ <;> simp [initRetry, hnc, hi]
  have := keep_inv_gen c st i hk _ h0 s h
  exact ⟨this.1, this.2.1, this.2.2.1⟩


/-- **C10 (the retry run gets going).** The state `setupRetry` hands to the scheduler is never stuck:
    no step is `running` without a worker (C10_no_orphan), so unless everything is already finished
    the first scan of the loop launches or labels a step — for every acyclic graph and EVERY recorded
    vector. (On the pinned tree the orphan `running` step made `isFinished` false for ever while no
    visit could change anything: the retry span — F11.) -/
theorem C10_starts_moving (c : Cfg) (hw : WF c) (hrk : Ranked c) (es : List (Nat × Nat)) (st : Nat → NStatus)
    (rc dc : Nat → Nat) (hg : GoodGraph c.n es)
    (hnf : isFinished c (initRetry c.n es st rc dc resetSet) = false) :
    ∃ i s', step c (initRetry c.n es st rc dc resetSet) (.visitDecide i) = some s' ∧
      s' ≠ initRetry c.n es st rc dc resetSet :=
  scan_progress c hw hrk _ rfl rfl hnf (fun j hj => C10_no_orphan c.n es st rc dc hg j hj)


/-! ### the retry RUN: the theorems of C01, C02, C03 and C15 hold for it

The fine-system invariants behind C01/C02/C03/C15 are proved in `Proofs/Sched` for every
state `Schedule` can be entered in (`Start`): steps that start from scratch next to steps kept with
a finished / skipped record and arbitrary recorded counters. `C10_start_ok` shows that what
`setupRetry` hands over is such a state, for every acyclic graph and EVERY recorded vector. -/

/-- what `setupRetry` hands to the scheduler is a state `Schedule` can be entered in -/
theorem C10_start_ok (n : Nat) (es : List (Nat × Nat)) (st : Nat → NStatus) (rc dc : Nat → Nat)
    (hg : GoodGraph n es) : Start (initRetry n es st rc dc resetSet) := by
  refine ⟨rfl, rfl, rfl, rfl, rfl, rfl, rfl, fun j => ?_⟩
  by_cases hj : j < n
  · have h := C10_start n es st rc dc hg j hj
    by_cases hex : ∃ u, u < n ∧ Unfinished (st u) ∧ Reaches es u j
    · exact Or.inl (h.1 hex)
    · refine Or.inr ⟨st j, rc j, dc j, (h.2 hex).1, initRetry_nd_kept hj (Bool.eq_false_iff.2 ?_)⟩
      exact fun hx => hex ((C10_reset n es st hg j hj).1.1 hx)
  · exact Or.inl (initRetry_nd_outside (Nat.le_of_not_lt hj))

/-- **C10 (dependency order).** In every state of every interleaving of the retry run: whenever a
    step has a worker that can still start its command or is running it, or the loop has decided to
    launch it, every step named in its `depends` is licensed (finished, or failed / skipped with the
    matching continueOn — kept steps by their record, reset steps by this run) and settled (no worker
    of it can start a command any more). C01 for retry runs, from EVERY recorded vector. -/
theorem C10_order (c : Cfg) (hn : NoRep c) (hf : c.tdFaults = false) (es : List (Nat × Nat))
    (st : Nat → NStatus) (rc dc : Nat → Nat) (hg : GoodGraph c.n es)
    (s : State) (h : ReachFrom c (initRetry c.n es st rc dc resetSet) s) (i : Nat)
    (hp : (s.nd i).pc.active = true ∨ s.loop = .launching i) :
    ∀ d ∈ (c.node i).deps, Licensed c s d ∧ Settled s d :=
  deps_done_from c hn hf (C10_start_ok c.n es st rc dc hg) s h i (hp.imp_left fun h e => by simp [e] at h)

/-- a dependency that is licensed and settled stays so for the rest of the retry run and is never
    executed again -/
theorem C10_order_stable (c : Cfg) (hn : NoRep c) (hf : c.tdFaults = false) (es : List (Nat × Nat))
    (st : Nat → NStatus) (rc dc : Nat → Nat) (hg : GoodGraph c.n es)
    (s s' : State) (h : ReachFrom c (initRetry c.n es st rc dc resetSet) s) (a : Act)
    (hs : step c s a = some s') (d : Nat) (hd : Licensed c s d ∧ Settled s d) :
    Licensed c s' d ∧ Settled s' d ∧ (s'.nd d).execs = (s.nd d).execs :=
  done_stable_from c hn hf (C10_start_ok c.n es st rc dc hg) s s' h a hs d hd

/-- **C10 (re-executed steps follow the ordinary rules).** In every state of an unstopped,
    un-timed-out retry run a reset step carries a label consistent with its dependencies (C02) and the
    attempt accounting of a fresh step (C03): finished ⇒ executed retry count + 1 times; failed ⇒ its
    full budget `limit + 1` was used (or its set-up failed); canceled ⇒ never executed; and its retry
    count never exceeds the limit. Nothing of the recorded run's counters survives in it (F45). -/
theorem C10_reexecuted (c : Cfg) (hn : NoRep c) (hdry : c.dry = false) (hf : c.tdFaults = false)
    (es : List (Nat × Nat)) (st : Nat → NStatus) (rc dc : Nat → Nat) (hg : GoodGraph c.n es)
    (s : State) (h : ReachFrom c (initRetry c.n es st rc dc resetSet) s)
    (hc : s.canceled = false) (ht : s.timedOut = false)
    (i : Nat) (hi : i < c.n) (hres : ∃ u, u < c.n ∧ Unfinished (st u) ∧ Reaches es u i) :
    (s.nd i).retry ≤ (c.node i).limit ∧
    ((s.nd i).status = .success → (s.nd i).execs = (s.nd i).retry + 1) ∧
    ((s.nd i).status = .error →
        ((s.nd i).setupFailed = true ∧ (s.nd i).execs = (s.nd i).retry) ∨
        ((s.nd i).execs = (c.node i).limit + 1 ∧ (s.nd i).retry = (c.node i).limit)) ∧
    ((s.nd i).status = .cancel →
        (s.nd i).execs = 0 ∧ ∃ d ∈ (c.node i).deps,
          ((s.nd d).status = .error ∧ (c.node d).contFail = false) ∨ (s.nd d).status = .cancel) ∧
    (((s.nd i).status = .success ∨ (s.nd i).status = .error ∨ (s.nd i).status = .running) →
        ∀ d ∈ (c.node i).deps, Licensed c s d) := by
  have h0 := C10_start_ok c.n es st rc dc hg
  have hfresh : (initRetry c.n es st rc dc resetSet).nd i = {} := (C10_start c.n es st rc dc hg i hi).1 hres
  have hF := final_counts_from c hn hdry hf h0 s h hc ht i hfresh
  have hL := label_consistent_from c hn hf h0 s h hc ht i hfresh
  exact ⟨retry_le_limit_from c s h i hfresh, hF.1, hF.2.1, hL.1, hL.2.2⟩

/-- **C10 (the limit holds in the retry run).** C15 for retry runs. -/
theorem C10_limit (c : Cfg) (hn : NoRep c) (es : List (Nat × Nat))
    (st : Nat → NStatus) (rc dc : Nat → Nat) (hg : GoodGraph c.n es)
    (s : State) (h : ReachFrom c (initRetry c.n es st rc dc resetSet) s) (hk : 0 < c.maxActive) :
    executing c s ≤ c.maxActive :=
  executing_le_from c hn (C10_start_ok c.n es st rc dc hg) s h hk

-- `hn` is not needed by the proof (the statement is the one DESIGN.md and MANIFEST.json cite)
set_option linter.unusedVariables false in
/-- **C10 (the retry run is never stuck).** In every reachable unstopped, unfinished state at the
    head of the loop a running step's worker has an enabled action, or one visit of the loop launches
    or labels a step: deadlock freedom of the retry run from EVERY recorded vector (termination:
    `C10_terminates`). -/
theorem C10_never_blocks (c : Cfg) (hw : WF c) (hrk : Ranked c) (hn : NoRep c) (es : List (Nat × Nat))
    (st : Nat → NStatus) (rc dc : Nat → Nat) (hg : GoodGraph c.n es)
    (s : State) (h : ReachFrom c (initRetry c.n es st rc dc resetSet) s)
    (hscan : s.loop = .scanning) (hnc : s.canceled = false) (hnf : isFinished c s = false) :
    (∃ j, j < c.n ∧ (s.nd j).status = .running ∧ ∃ a s', step c s a = some s' ∧
        (a = .setupDone j true ∨ a = .check j ∨ a = .execStart j ∨ a = .execEnd j true ∨ a = .postWrite j ∨
         a = .retryWake j ∨ a = .tail j)) ∨
    (∃ i s', step c s (.visitDecide i) = some s' ∧ s' ≠ s) :=
  never_blocks_from c hw hrk (C10_start_ok c.n es st rc dc hg) s h hscan hnc hnf

/-- **C10 (nothing is left unfinished).** When an unstopped retry run has left its loop every step
    is in a final state: no step `not started`, none `running`. -/
theorem C10_all_final (c : Cfg) (hn : NoRep c) (es : List (Nat × Nat))
    (st : Nat → NStatus) (rc dc : Nat → Nat) (hg : GoodGraph c.n es)
    (s : State) (h : ReachFrom c (initRetry c.n es st rc dc resetSet) s)
    (hc : s.canceled = false) (hl : LoopDone s) (i : Nat) (hi : i < c.n) : Terminal (s.nd i).status :=
  final_terminal_from c hn (C10_start_ok c.n es st rc dc hg) s h hc hl i hi

/-- **C10 (the retry always terminates).** For every acyclic graph and EVERY recorded vector, in every
    state of every interleaving of the retry run: every transition strictly decreases the
    natural-number `measure`, leaves the state unchanged (a loop visit with nothing to do, a repeated
    stop) or is a signal delivery (never increases it); while `Schedule` has not returned a decreasing
    transition is enabled; hence at most `measure` productive transitions happen, after which
    `Schedule` has returned. (Environment assumption of the model: a running command ends.) -/
theorem C10_terminates (c : Cfg) (hw : WF c) (hrk : Ranked c) (hn : NoRep c) (es : List (Nat × Nat))
    (st : Nat → NStatus) (rc dc : Nat → Nat) (hg : GoodGraph c.n es)
    (s : State) (h : ReachFrom c (initRetry c.n es st rc dc resetSet) s) :
    (∀ a s', step c s a = some s' →
        measure c s' < measure c s ∨ s' = s ∨
          ((∃ i sig ovr, a = .signalNode i sig ovr) ∧ measure c s' ≤ measure c s)) ∧
    (s.loop ≠ .returned → ∃ a s', step c s a = some s' ∧ measure c s' < measure c s) ∧
    (∀ as, descents c s as ≤ measure c s) ∧
    (∃ as s', runActs c s as = some s' ∧ s'.loop = .returned ∧ as.length ≤ measure c s) := by
  have h0 := C10_start_ok c.n es st rc dc hg
  exact ⟨fun a s' hs => step_measure c hn h0 s h a s' hs,
         fun hnr => productive_enabled c hw hrk hn h0 s h hnr,
         fun as => descents_le c hn h0 as s h,
         can_return c hw hrk hn h0 _ s h rfl⟩

/-- non-vacuity: chain 0 → 1 → 2 recorded finished / failed / not started; the retry run launches
    step 1 (its dependency is a kept step), and after it finished, step 2 -/
def demoR : Cfg := { n := 3, node := fun i => { deps := if i = 0 then [] else [i - 1] } }
def demoSt : Nat → NStatus := fun i => if i = 0 then .success else if i = 1 then .error else .none
example : ((runActs demoR (initRetry 3 [(0, 1), (1, 2)] demoSt (fun _ => 2) (fun _ => 3) resetSet)
    [.visitDecide 0, .visitDecide 1, .visitLaunch 1 true, .setupDone 1 true, .check 1, .execStart 1,
     .execEnd 1 true, .tail 1, .visitDecide 2]).map
      fun s => ((s.nd 0).execs, (s.nd 1).execs, (s.nd 1).retry, (s.nd 1).status, s.loop)) =
    some (0, 1, 0, .success, .launching 2) := by decide

/-! ### the retry RUN: outcome, handlers and stop (C04, C05)

The invariants behind C04 / C05 are proved in `Proofs/Sched/Outcome.lean` for every `Start` state;
`initRetry` is one (`C10_start_ok`). -/

/-- `setupRetry` hands over nothing outside the graph -/
theorem C10_outside (n : Nat) (es : List (Nat × Nat)) (st : Nat → NStatus) (rc dc : Nat → Nat)
    (i : Nat) (hi : n ≤ i) : (initRetry n es st rc dc resetSet).nd i = {} :=
  initRetry_nd_outside hi

-- `hw`, `hrk` are not needed by the proof (the statement is the one DESIGN.md and MANIFEST.json cite)
set_option linter.unusedVariables false in
/-- **C10 (outcome of the retry run).** For every acyclic graph, EVERY recorded vector and every
    interleaving of the retry run that was not stopped and did not time out: the status `o` read after
    all steps have finished (`atWait = some o`) is succeeded or failed; it is succeeded iff EVERY step
    of the graph — kept with its record or re-executed by this run — is finished or skipped, and
    failed iff SOME step is failed (necessarily a re-executed one: a kept step is finished or
    skipped, `C10_kept`). C04 (outcome) for retry runs. -/
theorem C10_outcome (c : Cfg) (hw : WF c) (hn : NoRep c) (hrk : Ranked c) (es : List (Nat × Nat))
    (st : Nat → NStatus) (rc dc : Nat → Nat) (hg : GoodGraph c.n es)
    (s : State) (h : ReachFrom c (initRetry c.n es st rc dc resetSet) s)
    (hc : s.canceled = false) (ht : s.timedOut = false) (o : SStatus) (ho : s.atWait = some o) :
    (o = .success ∨ o = .error) ∧
    (o = .success ↔ ∀ i, i < c.n → (s.nd i).status = .success ∨ (s.nd i).status = .skipped) ∧
    (o = .error ↔ ∃ i, i < c.n ∧ (s.nd i).status = .error) :=
  outcome_unstopped_from c hn (C10_start_ok c.n es st rc dc hg) s h hc ht o ho

/-- **C10 (handlers of the retry run).** In every state of every interleaving of the retry run
    (stopped or not): (1) before the plan is computed no handler has run, no outcome has been read and
    the loop is neither in its handler phase nor returned; (2) once a plan `p` exists it is
    `handlerPlan c o` for the outcome `o` read after all steps finished — [handler of `o`] ++ [onExit]
    restricted to the configured ones (shape: `C04_plan_shape`) — the handlers run so far are a prefix
    of `p` in plan order, and when `Schedule` has returned exactly `p` has run (each handler once,
    onExit last); (3) once the handlers have begun no step command starts any more (the number of
    command starts equals the number at that moment) and no step of the graph has a worker that could
    start one. C04 (handlers, handlers after steps) for retry runs. -/
theorem C10_handlers (c : Cfg) (es : List (Nat × Nat)) (st : Nat → NStatus) (rc dc : Nat → Nat)
    (hg : GoodGraph c.n es) (s : State) (h : ReachFrom c (initRetry c.n es st rc dc resetSet) s) :
    (s.hplan = none → s.hlog = [] ∧ s.atWait = none ∧ ¬ (∃ l, s.loop = .handlers l) ∧ s.loop ≠ .returned) ∧
    (∀ p, s.hplan = some p →
        (∃ o, s.atWait = some o ∧ p = handlerPlan c o) ∧
        ((∃ rest, s.loop = .handlers rest ∧ s.hlog ++ rest = p) ∨ (s.loop = .returned ∧ s.hlog = p))) ∧
    (((∃ l, s.loop = .handlers l) ∨ s.loop = .returned) →
        totalExecs c s = s.execsAtWait ∧ ∀ i, i < c.n → (s.nd i).pc.active = false) := by
  have h0 := C10_start_ok c.n es st rc dc hg
  have hp := hlog_plan_from c h0 s h
  exact ⟨hp.1, hp.2, no_exec_after_wait_from c h0 s h⟩

-- `hn` is not needed by the proof (the statement is the one DESIGN.md and MANIFEST.json cite)
set_option linter.unusedVariables false in
/-- **C10 (stopping the retry run).** For every state `s` of every interleaving of the retry run:
    (a) if the stop has been accepted in `s`, then in every later state `s'` every step `i` (kept or
    reset) has started its command at most once more than in `s`, and only if its worker had already
    passed its cancel test in `s` (`pc = starting`); (b) no step, kept or reset, whose worker is gone
    (or has only its deferred part / teardown left, or was never launched) is reported `running`;
    (c) a RESET step (unfinished in the record or downstream of an unfinished step) that is reported
    finished has executed its command in this run — also when the stop landed between the loop's
    launch decision and the worker's cancel test. Kept-step exception to (c): a step kept with the
    record `finished` is reported finished with NO execution in this run (`C10_kept`: `execs = 0`);
    its command ran in the recorded run. C05 (a), nothing-left-running and no-phantom-success for
    retry runs. -/
theorem C10_stop (c : Cfg) (hn : NoRep c) (hd : c.dry = false) (es : List (Nat × Nat))
    (st : Nat → NStatus) (rc dc : Nat → Nat) (hg : GoodGraph c.n es)
    (s : State) (h : ReachFrom c (initRetry c.n es st rc dc resetSet) s) (i : Nat) :
    (s.canceled = true → ∀ s', ReachFrom c s s' →
        (s'.nd i).execs ≤ (s.nd i).execs + (if (s.nd i).pc = .starting then 1 else 0)) ∧
    (((s.nd i).pc = .idle ∨ (s.nd i).pc = .gone ∨ (s.nd i).pc = .deferred ∨ (s.nd i).pc = .td) →
        (s.nd i).status ≠ .running) ∧
    (i < c.n → (∃ u, u < c.n ∧ Unfinished (st u) ∧ Reaches es u i) →
        (s.nd i).status = .success → (s.nd i).execs ≥ 1) := by
  have h0 := C10_start_ok c.n es st rc dc hg
  refine ⟨fun hc s' hs' => no_new_start_after_cancel c s s' hc hs' i,
          no_running_when_gone_from c h0 s h i, fun hi hres => ?_⟩
  exact success_executed_from c hd s h i ((C10_start c.n es st rc dc hg i hi).1 hres)

/-- **C10 (escalation in the retry run).** In every state of the retry run in which the stop has been
    accepted the final SIGKILL is enabled for every step and reaches every command that is still
    running (a worker executing a command has an executor: `exec_has_cmd_from`). C05 (c) for retry
    runs. -/
theorem C10_stop_kill (c : Cfg) (hd : c.dry = false) (es : List (Nat × Nat))
    (st : Nat → NStatus) (rc dc : Nat → Nat) (hg : GoodGraph c.n es)
    (s : State) (h : ReachFrom c (initRetry c.n es st rc dc resetSet) s) (hc : s.canceled = true) (i : Nat) :
    ∃ s', step c s (.signalNode i 9 false) = some s' ∧
      ((s.nd i).pc = .exec → (9 : Nat) ∈ (s'.nd i).sigs) :=
  kill_enabled c hd (C10_start_ok c.n es st rc dc hg) s h hc i

/-- on the pinned tree (reset set without `running`) the chain finished → running → not started keeps
    its orphan `running` step: `isFinished` can never become true without a stop (F11 witness) -/
theorem C10_pinned_orphan :
    ((initRetry 3 [(0, 1), (1, 2)] (fun i => if i = 0 then .success else if i = 1 then .running else .none)
        (fun _ => 0) (fun _ => 0) resetSetPinned).nd 1).status = .running := by decide

/-- before fix 58ed5db (reset set without `not started`) a step recorded `not started` with retry
    count 1 — the record of a run interrupted between a failed attempt's hand-back and its relaunch —
    starts the retry run with that count: part of its budget is spent before its first attempt (F45
    witness); with the fixed reset set it starts from scratch -/
theorem C10_F45_witness :
    ((initRetry 2 [] (fun i => if i = 0 then .none else .success) (fun _ => 1) (fun _ => 1) resetSetF45).nd 0).retry = 1 ∧
    ((initRetry 2 [] (fun i => if i = 0 then .none else .success) (fun _ => 1) (fun _ => 1) resetSet).nd 0).retry = 0 := by
  decide

/-! non-vacuity: diamond 0 → {1,2} → 3 with 1 recorded failed: exactly 1 and 3 are reset, 0 and 2 kept -/
example : (List.range 4).map (fun v => (setupRetry 4 [(0, 1), (0, 2), (1, 3), (2, 3)]
    (fun i => if i = 1 then .error else if i = 3 then .cancel else .success) resetSet).1.cleared v) =
    [false, true, false, true] := by decide

end BdModel.P10

#print axioms BdModel.P10.C10_reset
#print axioms BdModel.P10.C10_start
#print axioms BdModel.P10.C10_no_orphan
#print axioms BdModel.P10.C10_kept
#print axioms BdModel.P10.C10_starts_moving
#print axioms BdModel.P10.C10_start_ok
#print axioms BdModel.P10.C10_order
#print axioms BdModel.P10.C10_order_stable
#print axioms BdModel.P10.C10_reexecuted
#print axioms BdModel.P10.C10_limit
#print axioms BdModel.P10.C10_never_blocks
#print axioms BdModel.P10.C10_all_final
#print axioms BdModel.P10.C10_terminates
#print axioms BdModel.P10.C10_outside
#print axioms BdModel.P10.C10_outcome
#print axioms BdModel.P10.C10_handlers
#print axioms BdModel.P10.C10_stop
#print axioms BdModel.P10.C10_stop_kill
#print axioms BdModel.P10.C10_pinned_orphan
#print axioms BdModel.P10.C10_F45_witness
