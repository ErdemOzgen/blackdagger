import BdModel.Proofs.Lock
import BdModel.Proofs.LockMutex
/-
  C16 — at most one run of a DAG file is active at a time.
  `Lock.step` is the interleaving semantics of n agents executing the call order of `Agent.Run`
  (tree with the fixes 5f302ab = lock on the DAG file, 8270caf = no second removal of the socket
  path) over the lock table and the socket name space (model: BdModel/Lock/Socket.lean).  All
  statements are about EVERY reachable world: any number of agents, any configuration, any
  interleaving, kills included.
-/
namespace BdModel.P16
open BdModel.Lock

/-- an agent is executing the commands of its schedule (steps or handlers) -/
def executing (ag : Agent) : Bool := ag.pc == .steps || ag.pc == .handlers

theorem executing_holdsLock {ag : Agent} (h : executing ag = true) : holdsLock ag.pc = true := by
  unfold executing at h
  cases hpc : ag.pc <;> rw [hpc] at h <;> first | rfl | cases h

/-- **C16, whatever the path is called (the lock is on the file, not on its name).**  In every reachable
    world (any interleaving, kills included) two different agents of the same DAG file (same inode) that
    can open it are never both at a lock-holding program counter — from the probe up to the unlock after
    the final status write — hence never both executing steps or handlers.  This uses the lock table only:
    it holds for ANY socket names, i.e. also when the file is reached through a symlinked directory,
    a symlink or a hard link and the two agents therefore use different sockets. -/
theorem C16_lock_exclusive (w : World) (hw : Reach w) (a b : Nat) (hab : a ≠ b)
    (hd : (w.agents a).dag = (w.agents b).dag)
    (ha : (w.agents a).canOpen = true) (hb : (w.agents b).canOpen = true) :
    ¬ (holdsLock (w.agents a).pc = true ∧ holdsLock (w.agents b).pc = true) ∧
    ¬ (executing (w.agents a) = true ∧ executing (w.agents b) = true) := by
  have hlock : ¬ (holdsLock (w.agents a).pc = true ∧ holdsLock (w.agents b).pc = true) := by
    intro ⟨h1, h2⟩
    have l1 := reach_lockInv hw a ha h1
    rw [hd, reach_lockInv hw b hb h2] at l1
    injection l1 with e
    exact hab e.symm
  exact ⟨hlock, fun ⟨h1, h2⟩ => hlock ⟨executing_holdsLock h1, executing_holdsLock h2⟩⟩

/-- **C16 at full strength — mutual exclusion under EVERY interleaving.**  For every configuration,
    every interleaving (kills included) and every two different agents of one DAG file all of whose
    agents can open the file (so take the lock) and reach it under one spelling of its path (so use one
    socket name): never are both between "passed the already-running check" and "endpoint closed"
    (`inRegion`: history set-up, unlink, bind, listen, steps, handlers, final write, unlock, close) —
    hence never both in mid-run (commands started, endpoint not closed). -/
def C16_full : Prop :=
  ∀ (cfgs : List Cfg) (tr : List (Nat × Act)) (w : World), run (init cfgs) tr = some w →
    ∀ a b, a ≠ b → (w.agents a).dag = (w.agents b).dag → OpenDag w (w.agents a).dag →
      OneSpelling w (w.agents a).dag (w.agents a).sock →
      ¬ (inRegion (w.agents a).pc = true ∧ inRegion (w.agents b).pc = true) ∧
      ¬ (midRun (w.agents a) = true ∧ midRun (w.agents b) = true)

theorem midRun_region (ag : Agent) (h : midRun ag = true) : inRegion ag.pc = true := by
  have h2 := (Bool.and_eq_true_iff.1 h).2
  cases hpc : ag.pc <;> rw [hpc] at h2 <;> first | rfl | cases h2

/-- **C16_full holds** (by the invariants `LockInv`: whoever is at a lock-holding program counter holds
    the lock, and `Excl`: at most one agent in the region; the agent holding the endpoint owns a bound
    listening socket; bind always finds the path free). -/
theorem C16_full_holds : C16_full := by
  intro cfgs tr w hrun a b hab hd hopen hkey
  have hex := (reach_excl ⟨cfgs, tr, hrun⟩ _ _ hopen hkey).one a b hab rfl hd.symm
  exact ⟨hex, fun ⟨ha, hb⟩ => hex ⟨midRun_region _ ha, midRun_region _ hb⟩⟩

/-- **C16 (sequential part).**  In every reachable world (whatever the agents can open): if agent `b`
    does its "already running?" probe while the socket of its DAG file is bound and listening
    (agent `a`'s endpoint), then
    * the probe is enabled and `b` is refused,
    * `b` has executed no step and no handler, done no history operation, written no record,
      never unlinked or bound the socket path (`Pristine`),
    * the socket name space is exactly as before (`a`'s endpoint stays bound) and every other
      agent's record is untouched by the probe,
    * and whatever happens afterwards, `b` never acts again: its record stays frozen (so all its
      counters stay 0) and no later action of any interleaving is `b`'s. -/
theorem C16_sequential (w : World) (hw : Reach w) (a b : Nat)
    (hA : w.ns (w.agents b).sock = .bound a true) (hb : (w.agents b).pc = .probe) :
    ∃ w', step w b .probe = some w' ∧
      (w'.agents b).pc = .refused ∧ Pristine (w'.agents b) ∧
      w'.ns = w.ns ∧ (∀ c, c ≠ b → w'.agents c = w.agents c) ∧
      (∀ tr w'', run w' tr = some w'' →
          w''.agents b = w'.agents b ∧ Pristine (w''.agents b) ∧ ∀ x ∈ tr, x.1 ≠ b) := by
  -- `b` is at its probe, so it has touched nothing so far, and the refusal only moves its program counter
  have hp : Pristine { w.agents b with pc := .refused } := reach_early hw b (by rw [hb]; rfl)
  refine ⟨release (setAgent w b { w.agents b with pc := .refused }) (w.agents b).dag b, ?_, by simp, by simpa using hp,
    by simp, fun c hc => by simp [hc], ?_⟩
  · unfold step stepAg
    simp [hb, hA]
  · intro tr w'' hrun
    obtain ⟨hf, hno⟩ := run_refused_frozen hrun b (by simp)
    exact ⟨hf, by rw [hf]; simpa using hp, hno⟩

/-- **C16 (refusal by the lock).**  An agent that finds the lock of its DAG file held is refused at
    once; the world is unchanged except for its own program counter. -/
theorem C16_lock_refuses (w : World) (b c : Nat) (hb : (w.agents b).pc = .lock)
    (ho : (w.agents b).canOpen = true) (hl : w.lk (w.agents b).dag = some c) :
    step w b .lock = some (setAgent w b { w.agents b with pc := .refused }) := by
  unfold step stepAg
  simp [hb, ho, hl]

/-- **C16 (refusal leaves no trace).**  In every reachable world an agent that was refused — by the lock
    or by the probe — and, more generally, any agent that has not got past its probe, has executed
    nothing, recorded nothing and never touched the socket path. -/
theorem C16_refused_pristine (w : World) (hw : Reach w) (b : Nat) (h : (w.agents b).pc = .refused) :
    Pristine (w.agents b) :=
  reach_early hw b (by rw [h]; rfl)

/-- **C16 (no loser of a bind race any more — F20b).**  For a DAG file all of whose agents can open it,
    `bind` never fails in any reachable world: no agent is ever on the bind-failure path, so an agent
    that has recorded a run (history operations > 0) is one that passed the check and bound its socket. -/
theorem C16_bind_never_fails (w : World) (hw : Reach w) (a : Nat) (hopen : OpenDag w (w.agents a).dag)
    (hkey : OneSpelling w (w.agents a).dag (w.agents a).sock) :
    failing (w.agents a).pc = false ∧
    ((w.agents a).pc = .bind → w.ns (w.agents a).sock = .absent) :=
  ⟨(reach_excl hw _ _ hopen hkey).nofail a rfl, fun e => (reach_excl hw _ _ hopen hkey).path a rfl _ (by rw [e]; rfl)⟩

/-- **the endpoint is really there.**  For such a file, the agent between `listen` and the close of its
    listener owns a bound, listening socket — so every probe by another agent of the file is answered
    (and refused, `C16_sequential`), and an agent past its lock holds the lock. -/
theorem C16_endpoint_and_lock (w : World) (hw : Reach w) (a : Nat) (hopen : OpenDag w (w.agents a).dag)
    (hkey : OneSpelling w (w.agents a).dag (w.agents a).sock) :
    (holding (w.agents a).pc = true → w.ns (w.agents a).sock = .bound a true) ∧
    (holdsLock (w.agents a).pc = true → w.lk (w.agents a).dag = some a) :=
  ⟨fun hh => (reach_excl hw _ _ hopen hkey).path a rfl _ (expects_holding hh), reach_lockInv hw a (hopen a rfl)⟩

/-- **what "bound" means.**  In every reachable world a bound socket path belongs to an agent of that
    DAG file which is alive between its `bind` and the close of its listener; when the socket is
    listening that agent's schedule is under way (steps, handlers, final status write, unlock, about
    to close). -/
theorem C16_bound_means_active (w : World) (hw : Reach w) (d a : Nat) (l : Bool) (h : w.ns d = .bound a l) :
    (w.agents a).sock = d ∧ ownerOk l (w.agents a).pc = true ∧ alive (w.agents a).pc = true := by
  have ho := reach_owner hw d a l h
  refine ⟨ho.1, ho.2, ?_⟩
  have h2 := ho.2
  revert h2
  cases l <;> cases (w.agents a).pc <;> first | (intro _; rfl) | (intro h2; cases h2)

/-- An action of one agent never changes another agent's record, nor the socket or the lock of another DAG file. -/
theorem C16_locality (w w' : World) (a : Nat) (act : Act) (h : step w a act = some w') :
    (∀ b, b ≠ a → w'.agents b = w.agents b) ∧ (∀ e, e ≠ (w.agents a).sock → w'.ns e = w.ns e) ∧
    (∀ e, e ≠ (w.agents a).dag → w'.lk e = w.lk e) :=
  step_frame h

/-! ### what remains when the DAG file cannot be opened -/

/-- the world reached by an interleaving has two different agents of the same DAG file in mid-run -/
def bothRun (cfgs : List Cfg) (tr : List (Nat × Act)) (a b : Nat) : Bool :=
  match run (init cfgs) tr with
  | none => false
  | some w => decide ((w.agents a).dag = (w.agents b).dag) && midRun (w.agents a) && midRun (w.agents b)

/-- two starts of DAG file 0 that both FAIL to open the file (lock skipped, best effort) -/
def wCfgs : List Cfg := [{ dag := 0, steps := 2, canOpen := false }, { dag := 0, steps := 2, canOpen := false }]

/-- the old F20 interleaving: probe₀ probe₁ (both see no socket) · hist₀ unlink₀ bind₀ listen₀ ·
    hist₁ unlink₁ (removes agent 0's socket file) bind₁ listen₁ · both execute a step -/
def wTrace : List (Nat × Act) :=
  by_ 0 upToProbe ++ by_ 1 upToProbe ++
  by_ 0 (histOps ++ [.unlink, .bind, .listen]) ++
  by_ 1 (histOps ++ [.unlink, .bind, .listen]) ++
  [(0, .execStep), (1, .execStep)]

/-- **the hypothesis `OpenDag` of `C16_full` is needed**: agents that cannot open the DAG file skip the
    lock, and for them the probe-then-bind race of the pinned code is still there. (`os.Open` of the file
    the command has just loaded fails only if the file was deleted or made unreadable in between.) -/
theorem C16_unlocked_still_races : bothRun wCfgs wTrace 0 1 = true := by decide

/-- the same interleaving with agents that CAN open the file is not even executable: agent 1 is refused by the lock -/
example : (run (init [{ dag := 0, steps := 2 }, { dag := 0, steps := 2 }]) (by_ 0 upToProbe ++ by_ 1 [.setup true, .precond true, .lock])).map
    (fun w => verdict (w.agents 1)) = some (.refused, 0, 0, 0, 0) := by decide
-- (a `World` holds functions, so equality of `Option World` is not decidable: by unfolding instead of `decide`)
example : run (init [{ dag := 0, steps := 2 }, { dag := 0, steps := 2 }]) wTrace = none := by
  simp [run, wTrace, by_, upToProbe, histOps, step, stepAg, init, fresh, setAgent, setLk]

/-! ### the same file under two spellings of its path -/

/-- agent 0 starts the file through its plain path (socket 0), agent 1 through a link (socket 1): same `dag` -/
def lCfgs : List Cfg := [{ dag := 0, steps := 1, sock := 0 }, { dag := 0, steps := 1, sock := 1 }]

/-- while agent 0 is anywhere from its probe to its final write, agent 1 is refused by the lock although its
    own socket name is free -/
example : (run (init lCfgs) (by_ 0 (upToProbe ++ histOps ++ [.unlink, .bind, .listen, .execStep]) ++
      by_ 1 [.setup true, .precond true, .lock])).map (fun w => (verdict (w.agents 1), w.ns 1)) =
    some ((.refused, 0, 0, 0, 0), .absent) := by decide

/-- why `C16_full` asks for one spelling: once agent 0 has written its final status and released the lock,
    agent 1 (other socket name: its probe finds nothing) may start while agent 0 is still closing its
    listener — both are "in the region", but agent 0 executes nothing any more (`C16_lock_exclusive`). -/
example : (run (init lCfgs) (by_ 0 (upToProbe ++ histOps ++ [.unlink, .bind, .listen, .execStep, .finalWrite, .unlock]) ++
      by_ 1 (upToProbe ++ histOps ++ [.unlink, .bind, .listen, .execStep]))).map
    (fun w => ((w.agents 0).pc, (w.agents 1).pc, executing (w.agents 0))) = some (.shutClose, .finalWrite, false) := by decide

/-! ### the file saved again while a run is active (new inode, same path) -/

/-- agent 0 started the file before it was saved again, agent 1 opens the path afterwards: another inode,
    hence another lock (`dag` 0 / 1), but the same path spelling, hence the same socket name -/
def rCfgs : List Cfg := [{ dag := 0, steps := 2, sock := 0 }, { dag := 1, steps := 2, sock := 0 }]

/-- the lock does not collide any more; what refuses the second start is the probe of the first run's
    endpoint (`C16_sequential`: answered — or timed out — while it is listening ⇒ refused, nothing touched) -/
example : (run (init rCfgs) (by_ 0 (upToProbe ++ histOps ++ [.unlink, .bind, .listen, .execStep]) ++
      by_ 1 upToProbe)).map (fun w => (verdict (w.agents 1), w.lk 0, w.lk 1, w.ns 0)) =
    some ((.refused, 0, 0, 0, 0), some 0, none, .bound 0 true) := by decide

/-- **what remains for a file saved again**: the probe protects only once the first run is LISTENING. A start
    of the re-saved file that falls into the first run's window between its probe and its listen is not
    refused (the old probe/bind race, between two lock keys): both end up executing steps. The mirror image of
    the `OneSpelling` case — there the lock protects and the socket does not, here the socket protects and the
    lock does not; `C16_full` and `C16_lock_exclusive` need the same file identity, `C16_sequential` does not. -/
theorem C16_resaved_still_races :
    (run (init rCfgs) wTrace).map (fun w => ((w.agents 0).sock == (w.agents 1).sock, midRun (w.agents 0), midRun (w.agents 1))) =
      some (true, true, true) := by decide

/-! ### … saved again with ANOTHER DEFINITION (another `name:` key, description, steps, params, logDir) -/

/-- **the socket name is a function of the file's location alone** (internal/dag/dag.go `SockAddr`: the file name
    without its extension + md5 of the location — nothing of the definition's CONTENT enters).  `sockOf` maps a path to
    its socket name; agent `a` loaded the definition at path `p` before it was saved again, agent `b` loads it
    afterwards.  Nothing else relates the two: the lock keys `(w.agents a).dag`, `(w.agents b).dag` (inodes) and the
    schedules (`steps`, `hands`: the content) are arbitrary. -/
def SockOfPath {Path : Type} (sockOf : Path → Nat) (p : Path) (w : World) (a b : Nat) : Prop :=
  (w.agents a).sock = sockOf p ∧ (w.agents b).sock = sockOf p

/-- **C16 for a file saved again with whatever content, while its run answers.**  Under `SockOfPath` a re-save leaves the
    probe's target unchanged: in every reachable world, if the first run `a` is listening (its status endpoint answers)
    and `b` — started or retried from the SAME PATH after the file was replaced, whatever inode and definition the path
    now names — does its probe, then `b ≠ a`, `b` is refused having touched nothing (`Pristine`) and never acts again,
    `a`'s record is unchanged, and the endpoint AT THE FILE'S ADDRESS `sockOf p` is still `a`'s, listening — so a status
    query for the file (a probe of `sockOf p` by anybody who loads the file as it is now) keeps reaching the first run. -/
theorem C16_resaved_same_path_refused {Path : Type} (sockOf : Path → Nat) (p : Path)
    (w : World) (hw : Reach w) (a b : Nat) (hp : SockOfPath sockOf p w a b)
    (hA : w.ns (w.agents a).sock = .bound a true) (hb : (w.agents b).pc = .probe) :
    a ≠ b ∧ ∃ w', step w b .probe = some w' ∧
      (w'.agents b).pc = .refused ∧ Pristine (w'.agents b) ∧
      w'.ns (sockOf p) = .bound a true ∧ w'.agents a = w.agents a ∧
      (∀ tr w'', run w' tr = some w'' → w''.agents b = w'.agents b ∧ ∀ x ∈ tr, x.1 ≠ b) := by
  obtain ⟨hsa, hsb⟩ := hp
  have hab : a ≠ b := by
    intro e
    -- the owner of a listening path is past `listen`, not at its probe
    obtain ⟨-, ho⟩ := reach_owner hw _ a true hA
    rw [e, hb] at ho
    cases ho
  have hA' : w.ns (w.agents b).sock = .bound a true := by rw [hsb, ← hsa]; exact hA
  obtain ⟨w', hs, hr, hpr, hns, hoth, hfut⟩ := C16_sequential w hw a b hA' hb
  refine ⟨hab, w', hs, hr, hpr, ?_, hoth a hab, fun tr w'' h => ?_⟩
  · rw [hns, ← hsa]; exact hA
  · obtain ⟨hfrozen, -, hno⟩ := hfut tr w'' h
    exact ⟨hfrozen, hno⟩

/-- the hypotheses are met by the re-saved file of `rCfgs` (lock keys 0 / 1, one socket name): path `()` ↦ socket 0 -/
example : (run (init rCfgs) (by_ 0 (upToProbe ++ histOps ++ [.unlink, .bind, .listen, .execStep]) ++
      by_ 1 [.setup true, .precond true, .lock])).map
    (fun w => (decide ((w.agents 0).sock = (fun (_ : Unit) => 0) () ∧ (w.agents 1).sock = (fun (_ : Unit) => 0) ()),
               w.ns (w.agents 0).sock, (w.agents 1).pc, (w.agents 0).dag, (w.agents 1).dag)) =
    some (true, .bound 0 true, .probe, 0, 1) := by decide

/-- a start of the re-saved file whose socket name is ANOTHER one (lock key 1, socket 1): what a socket name that depends
    on the definition's content — say on its `name:` key — would give after a save that changes that content -/
def nCfgs : List Cfg := [{ dag := 0, steps := 2, sock := 0 }, { dag := 1, steps := 2, sock := 1 }]

/-- **`SockOfPath` is needed**: with another lock key AND another socket name nothing refuses the second start although
    the first run is listening and in its steps — strictly sequentially, no race involved: it records a run, executes a
    step alongside the first run, and the first run's endpoint is not at the second one's address. -/
theorem C16_resaved_other_socket_not_refused :
    (run (init nCfgs) (by_ 0 (upToProbe ++ histOps ++ [.unlink, .bind, .listen, .execStep]) ++
      by_ 1 (upToProbe ++ histOps ++ [.unlink, .bind, .listen, .execStep]))).map
      (fun w => (w.ns 0, w.ns 1, midRun (w.agents 0), midRun (w.agents 1), (w.agents 1).recs)) =
    some (.bound 0 true, .bound 1 true, true, true, 2) := by decide

/-! ### witnesses / non-vacuity -/

def oCfgs : List Cfg := [{ dag := 0, steps := 2 }, { dag := 0, steps := 2 }]

/-- the hypotheses of `C16_sequential` are met: agent 0 listening and past its unlock (lock free),
    agent 1 takes the lock and is at its probe; the probe refuses and gives the lock back -/
example : (run (init [{ dag := 0, steps := 1 }, { dag := 0 }])
      (by_ 0 (upToProbe ++ histOps ++ [.unlink, .bind, .listen, .execStep, .finalWrite, .unlock]) ++
       by_ 1 [.setup true, .precond true, .lock])).map (fun w => (w.ns 0, (w.agents 1).pc, w.lk 0)) =
    some (.bound 0 true, .probe, some 1) := by decide
example : (run (init [{ dag := 0, steps := 1 }, { dag := 0 }])
      (by_ 0 (upToProbe ++ histOps ++ [.unlink, .bind, .listen, .execStep, .finalWrite, .unlock]) ++
       by_ 1 upToProbe)).map (fun w => (verdict (w.agents 1), w.ns 0, w.lk 0)) =
    some ((.refused, 0, 0, 0, 0), .bound 0 true, none) := by decide

/-- while agent 0 runs its steps, agent 1 is refused by the lock -/
example : (run (init oCfgs) (by_ 0 (upToProbe ++ histOps ++ [.unlink, .bind, .listen, .execStep]) ++
      by_ 1 [.setup true, .precond true, .lock])).map (fun w => (verdict (w.agents 1), w.lk 0)) =
    some ((.refused, 0, 0, 0, 0), some 0) := by decide

/-- after a kill the socket file is stale, the lock is free, and the next start runs -/
example : (run (init oCfgs) (by_ 0 (upToProbe ++ histOps ++ [.unlink, .bind, .listen, .kill]) ++
      by_ 1 (upToProbe ++ histOps ++ [.unlink, .bind, .listen, .execStep]))).map
    (fun w => ((w.agents 1).pc, w.ns 0, w.lk 0)) = some (.steps, .bound 1 true, some 1) := by decide

/-- a complete run ends with the path absent and the lock free -/
example : (run (init [{ dag := 0, steps := 1, hands := 1 }])
      (by_ 0 (upToProbe ++ histOps ++ [.unlink, .bind, .listen, .execStep, .handler, .finalWrite, .unlock, .shutClose, .histClose]))).map
    (fun w => (verdict (w.agents 0), w.ns 0, w.lk 0)) = some ((.done, 1, 1, 4, 2), .absent, none) := by decide

end BdModel.P16

#print axioms BdModel.P16.C16_full_holds
#print axioms BdModel.P16.C16_lock_exclusive
#print axioms BdModel.P16.C16_sequential
#print axioms BdModel.P16.C16_lock_refuses
#print axioms BdModel.P16.C16_refused_pristine
#print axioms BdModel.P16.C16_bind_never_fails
#print axioms BdModel.P16.C16_endpoint_and_lock
#print axioms BdModel.P16.C16_bound_means_active
#print axioms BdModel.P16.C16_locality
#print axioms BdModel.P16.C16_unlocked_still_races
#print axioms BdModel.P16.C16_resaved_still_races
#print axioms BdModel.P16.C16_resaved_same_path_refused
#print axioms BdModel.P16.C16_resaved_other_socket_not_refused
