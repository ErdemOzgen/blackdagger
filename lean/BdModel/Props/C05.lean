import BdModel.Proofs.Sched.Outcome
/-
  C05 — stop and timeout always bring a run to an end.
  The model follows the code after the fix: commits 6fb8b5a, ed2a95e, ec8c08c of /repo (F27, F5, F4).
  Proved here: the safety clauses (no new start, the right signal reaches every running command, the
  escalation reaches every command still alive incl. repeating steps, a repeating step is not
  repeated, nothing is left `running`, nothing unexecuted is reported finished). The wall-clock
  bound and process-group delivery are runtime behaviour (partial label; real-process stream).
-/
namespace BdModel.P05
open BdModel.Sched

/-- **C05 (a) no new start.** Once the stop has been accepted a command can start only in a worker
    that had already passed its cancel test, and then at most once more. -/
theorem C05_no_new_start (c : Cfg) (s s' : State) (hc : s.canceled = true)
    (h : ReachFrom c s s') (i : Nat) :
    (s'.nd i).execs ≤ (s.nd i).execs + (if (s.nd i).pc = .starting then 1 else 0) :=
  no_new_start_after_cancel c s s' hc h i

/-- the cancel test itself: with the flag set a worker at the loop head skips the command -/
theorem C05_check_skips (c : Cfg) (s s' : State) (i : Nat) (hc : s.canceled = true)
    (h : step c s (.check i) = some s') : (s'.nd i).pc = .tail ∧ (s'.nd i).execs = (s.nd i).execs := by
  cases step_sound h with
  | node hm => cases hm <;> simp_all

/-- the signal a step receives: its `signalOnStop` when the sender allows the override and one is
    configured, otherwise the sender's signal -/
def effSig (c : Cfg) (i : Nat) (sig : Nat) (ovr : Bool) : Nat :=
  match ovr, (c.node i).sigOnStop with
  | true, some g => g
  | _, _ => sig

/-- **C05 (b) delivery.** Whenever `Signal` visits a step whose command is running, that command
    is sent `effSig` — whatever the step's label is (so also on the 5 s resend and on escalation). -/
theorem C05_delivery (c : Cfg) (hd : c.dry = false) (s s' : State) (hr : Reach c s) (i sig : Nat) (ovr : Bool)
    (h : step c s (.signalNode i sig ovr) = some s') (hp : (s.nd i).pc = .exec) :
    (s'.nd i).sigs = (s.nd i).sigs ++ [effSig c i sig ovr] ∧ (s'.nd i).pc = .exec :=
  signal_delivered c hd (start_init c) s s' hr.reachFrom i sig ovr h hp

/-- **C05 (c) escalation.** After the stop has been accepted the final SIGKILL is enabled for EVERY
    step, repeating or not, and reaches every command that is still running. -/
theorem C05_kill (c : Cfg) (hd : c.dry = false) (s : State) (hr : Reach c s) (hc : s.canceled = true) (i : Nat) :
    ∃ s', step c s (.signalNode i 9 false) = some s' ∧
      ((s.nd i).pc = .exec → (9 : Nat) ∈ (s'.nd i).sigs) :=
  kill_enabled c hd (start_init c) s hr.reachFrom hc i

/-- **C05 (e) repeating steps.** `Signal` does not touch a repeating step except with SIGKILL … -/
theorem C05_repeat_not_signalled (c : Cfg) (s : State) (i sig : Nat) (ovr : Bool)
    (hr : (c.node i).rep = true) (hs : sig ≠ 9) : step c s (.signalNode i sig ovr) = none := by
  simp [step, hr, hs]

/-- … and after the stop its current iteration is the last one: the worker does not go back to the
    loop head when the command ends. -/
theorem C05_repeat_stops (c : Cfg) (s s' : State) (i : Nat) (ok : Bool) (hc : s.canceled = true)
    (h : step c s (.execEnd i ok) = some s') : (s'.nd i).pc ≠ .check := by
  -- with the stop flag set `afterExec` never sends the worker back to the loop head
  have key : ∀ b, Lim.aePc c true i b ≠ .check := fun b => by
    simp only [Lim.aePc, Bool.not_true, Bool.and_false, Bool.false_eq_true, if_false]
    split <;> simp
  cases step_sound h with
  | node hm => cases hm <;> simp_all

-- `hn` is not needed by the proof (the statement is the one DESIGN.md and MANIFEST.json cite)
set_option linter.unusedVariables false in
/-- **C05 / C04 nothing left running.** A step whose worker is gone is never reported running. -/
theorem C05_nothing_left_running (c : Cfg) (hn : NoRep c) (s : State) (hr : Reach c s) (i : Nat)
    (hp : (s.nd i).pc = .idle ∨ (s.nd i).pc = .gone ∨ (s.nd i).pc = .deferred ∨ (s.nd i).pc = .td) :
    (s.nd i).status ≠ .running :=
  no_running_when_gone_from c (start_init c) s hr.reachFrom i hp

-- `hn` is not needed by the proof (the statement is the one DESIGN.md and MANIFEST.json cite)
set_option linter.unusedVariables false in
/-- **C05 / C04 no phantom success.** A step reported finished has executed its command — also when
    the stop landed between the loop's launch decision and the worker's cancel test. -/
theorem C05_finished_means_executed (c : Cfg) (hn : NoRep c) (hd : c.dry = false) (s : State) (hr : Reach c s)
    (i : Nat) (h : (s.nd i).status = .success) : (s.nd i).execs ≥ 1 :=
  success_executed_from c hd s hr.reachFrom i rfl h

/-! regression witnesses (the traces that violated the property before the fixes) -/
def one : Cfg := { n := 1, node := fun _ => {} }
def up : List Act := [.visitDecide 0, .visitLaunch 0 true, .setupDone 0 true, .check 0, .execStart 0]

/-- F4: TERM (ignored by the process), then the escalation: KILL is delivered although the label is canceled -/
example : ((runActs one (init one) (up ++ [.setCanceled, .signalNode 0 15 true, .signalNode 0 9 false])).map fun s =>
    ((s.nd 0).status, (s.nd 0).pc, (s.nd 0).sigs)) = some (.cancel, .exec, [15, 9]) := by decide

/-- F27: stop between launch decision and launch: the step ends canceled, not finished -/
example : ((runActs one (init one) [.visitDecide 0, .setCanceled, .signalNode 0 15 true, .visitLaunch 0 true,
    .setupDone 0 true, .check 0, .tail 0]).map fun s => ((s.nd 0).status, (s.nd 0).execs)) = some (.cancel, 0) := by
  decide

/-- F5: a repeating step whose iteration fails after the stop ends canceled, not running -/
def rep1 : Cfg := { n := 1, node := fun _ => { rep := true } }
example : ((runActs rep1 (init rep1) (up ++ [.setCanceled, .execEnd 0 false])).map fun s =>
    ((s.nd 0).status, (s.nd 0).pc)) = some (.cancel, .deferred) := by decide

end BdModel.P05

#print axioms BdModel.P05.C05_no_new_start
#print axioms BdModel.P05.C05_check_skips
#print axioms BdModel.P05.C05_delivery
#print axioms BdModel.P05.C05_kill
#print axioms BdModel.P05.C05_repeat_not_signalled
#print axioms BdModel.P05.C05_repeat_stops
#print axioms BdModel.P05.C05_nothing_left_running
#print axioms BdModel.P05.C05_finished_means_executed
