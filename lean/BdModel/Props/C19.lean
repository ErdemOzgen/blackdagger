import BdModel.Proofs.LoadEffects
import BdModel.Proofs.LoadDisplay
/-
  C19 — listing, viewing and validating a DAG has no side effects.
  `reach T entry field` interprets the effect-site table extracted from builder.go / parser.go / loader.go
  (tie: Extracted.Load.{effectSites,callEdges,builderFields,entryOpts} = Canon.Load.…); the statements are
  about the canonical table (the tree after 37ddbbb and e8e8d59) and quantify over EVERY definition field
  name (any string).
-/
namespace BdModel.P19
open BdModel.Load.Effects BdModel.Load.Display

/-- **C19 (full strength).** Through a non-evaluating entry point (LoadYAML — validation on save,
    LoadMetadata — listing / scheduler daemon, LoadWithoutEval — display) no definition field reaches a
    command execution or an `os.Setenv`: under `noEval` the one enabled effect site of the table is the `exec.Command`
    of `substituteCommands`, and both calls of that function are guarded (`reachO_eq_nil`, three checks of the table). -/
theorem C19_full : ∀ e ∈ nonEvaluatingEntries, ∀ f : String, reach canon e f = [] := by
  intro e he f
  have hopts : ∀ e ∈ nonEvaluatingEntries, ∃ m, optsOf canon e = some ⟨true, m⟩ := by decide +kernel
  obtain ⟨m, hm⟩ := hopts e he
  have : reachO canon ⟨true, m⟩ f = [] := by
    cases m <;>
      exact reachO_eq_nil canon _ ["substituteCommands"] (by decide +kernel) (by decide +kernel) (by decide +kernel) f
  simp only [reach, hm, this, ite_self]

/-- **only starting / dry-running evaluates**: `Load` does reach a command execution and a Setenv through
    `env`, the command substitution through `logDir`, the exports and the back-tick execution through
    `params` (positive control: the table is not empty and the guards are what separates the entry points). -/
theorem C19_load_evaluates :
    (⟨"substituteCommands", "exec.Command", "0"⟩ : Effect) ∈ reach canon "Load" "Env" ∧
    (⟨"loadVariables", "os.Setenv", "0"⟩ : Effect) ∈ reach canon "Load" "Env" ∧
    (⟨"substituteCommands", "exec.Command", "0"⟩ : Effect) ∈ reach canon "Load" "LogDir" ∧
    (⟨"parseParams", "os.Setenv", "0"⟩ : Effect) ∈ reach canon "Load" "Params" ∧
    (⟨"parseParamValue", "exec.Command", "0"⟩ : Effect) ∈ reach canon "Load" "Params" := by
  have ho : optsOf canon "Load" = some ⟨false, false⟩ := by decide +kernel
  have hb := mem_reachFns_of_ranked canon ⟨false, false⟩ "build" ["Load", "loadDAG", "build"] (by decide +kernel)
    (by decide +kernel) "Load" List.mem_cons_self
  simp only [reach_eq_reachO ho hb]
  decide +kernel

/-- **no guard is redundant.** The model abstracts the value of a field away, so a guard weakened for some
    value shapes only (seeded mutant C19-3: `if quoted || isBacktick && eval` in parseParamValue) arrives in the
    table as a site / call edge without its `noEval` requirement. For EVERY guarded effect site and EVERY guarded
    call edge of the canonical table, dropping that single requirement lets a non-evaluating entry point reach
    an effect — such a change can never leave `C19_full` provable (the tie breaks, and re-adopting the table
    refutes the theorem). The canonical table itself does not leak. -/
theorem C19_guards_needed :
    leaks canon = false ∧
    (∀ i ∈ List.range canon.sites.length,
      (isEffectRow (canon.sites.getD i []) && col (canon.sites.getD i []) 4 == "F") = true → leaks (unguardSite canon i) = true) ∧
    (∀ i ∈ List.range canon.edges.length,
      (col (canon.edges.getD i []) 2 == "F") = true → leaks (unguardEdge canon i) = true) := by
  -- which rows carry a `noEval` guard
  have hidx : (∀ i ∈ List.range canon.sites.length,
      (isEffectRow (canon.sites.getD i []) && col (canon.sites.getD i []) 4 == "F") = true → i ∈ [2, 9, 10, 12]) ∧
      ∀ i ∈ List.range canon.edges.length, (col (canon.edges.getD i []) 2 == "F") = true → i ∈ [18, 23] := by
    decide +kernel
  simp only [List.mem_cons, List.not_mem_nil, or_false] at hidx
  obtain ⟨fEnv, fParams, fLogDir⟩ : "Env" ∈ mentioned canon ∧ "Params" ∈ mentioned canon ∧ "LogDir" ∈ mentioned canon := by
    decide +kernel
  have hy : "LoadYAML" ∈ nonEvaluatingEntries := by decide
  have ho : optsOf canon "LoadYAML" = some ⟨true, false⟩ := by decide +kernel
  -- validation runs `build` (`LoadYAML → loadYAML → build`), also in the two tables with an unguarded edge
  have hb : ∀ T ∈ [canon, unguardEdge canon 18, unguardEdge canon 23],
      ranked T ⟨true, false⟩ "build" ["LoadYAML", "loadYAML", "build"] = true ∧ 3 ≤ T.edges.length + 1 := by decide +kernel
  have hbuild := fun T hT => mem_reachFns_of_ranked T _ _ _ (hb T hT).1 (hb T hT).2 "LoadYAML" List.mem_cons_self
  -- the effect validation reaches without each guard, and the field it comes through
  obtain ⟨s2, s9, s10⟩ :
      (⟨"loadVariables", "os.Setenv", "0"⟩ : Effect) ∈ reachO (unguardSite canon 2) ⟨true, false⟩ "Env" ∧
      (⟨"parseParams", "os.Setenv", "0"⟩ : Effect) ∈ reachO (unguardSite canon 9) ⟨true, false⟩ "Params" ∧
      (⟨"parseParams", "os.Setenv", "1"⟩ : Effect) ∈ reachO (unguardSite canon 10) ⟨true, false⟩ "Params" := by decide +kernel
  obtain ⟨e18, e23⟩ :
      (⟨"substituteCommands", "exec.Command", "0"⟩ : Effect) ∈ reachO (unguardEdge canon 18) ⟨true, false⟩ "LogDir" ∧
      (⟨"substituteCommands", "exec.Command", "0"⟩ : Effect) ∈ reachO (unguardEdge canon 23) ⟨true, false⟩ "Env" := by
    decide +kernel
  have site := fun i => reach_eq_reachO (T := unguardSite canon i) (e := "LoadYAML") ho
    (reachFns_congr rfl _ _ ▸ hbuild canon (by simp))
  refine ⟨leaks_eq_false canon C19_full, fun i hi hc => ?_, fun i hi hc => ?_⟩
  · rcases hidx.1 i hi hc with rfl | rfl | rfl | rfl
    · exact leaks_of_mem hy fEnv (site 2 _ ▸ s2)
    · exact leaks_of_mem hy fParams (site 9 _ ▸ s9)
    · exact leaks_of_mem hy fParams (site 10 _ ▸ s10)
    · -- this site has its theorem already, stated for `LoadMetadata` and the whole of `reach`
      exact leaks_of_mem (by decide) fParams
        (parseParamValue_guard_needed 12 (by decide) (by decide +kernel) (by decide +kernel))
  · rcases hidx.2 i hi hc with rfl | rfl
    · exact leaks_of_mem hy fLogDir (reach_eq_reachO (T := unguardEdge canon 18) ho (hbuild _ (by simp)) _ ▸ e18)
    · exact leaks_of_mem hy fEnv (reach_eq_reachO (T := unguardEdge canon 23) ho (hbuild _ (by simp)) _ ▸ e23)

/-- **`call:` steps are covered.** The command line of a step or handler that calls a function is assembled by
    `parseFuncCall`; that function lies on the call path of the builder steps reading `Steps`, `HandlerOn` and
    `Functions` under the validating / displaying entry points, and has no effect site in the canonical table —
    which is what `C19_full` says for those three fields. An exec site there (seeded mutant C19-4:
    `util.SplitCommandWithParse`) would be reached from LoadYAML and LoadWithoutEval through all three fields. -/
theorem C19_call_steps :
    (∀ e ∈ nonEvaluatingEntries, ∀ f ∈ ["Steps", "HandlerOn", "Functions"], reach canon e f = []) ∧
    (∀ e ∈ ["LoadYAML", "LoadWithoutEval"], ∀ f ∈ ["Steps", "HandlerOn", "Functions"],
      (⟨"parseFuncCall", "util.SplitCommandWithParse", "0"⟩ : Effect) ∈ reach (addSite canon callSite) e f) := by
  -- (`addSite` in the statement is `Effects.addSite`, on `Tables`; `Display.addSite`, on `DTables`, is open as well)
  have ho : ∀ e ∈ ["LoadYAML", "LoadWithoutEval"], optsOf canon e = some ⟨true, false⟩ := by decide +kernel
  -- both entries run `build`: each function of the list calls a later one
  have hb := mem_reachFns_of_ranked canon ⟨true, false⟩ "build"
    (["LoadYAML", "LoadWithoutEval"] ++ ["loadYAML", "loadDAG", "build"]) (by decide +kernel) (by decide +kernel)
  refine ⟨fun e he f _ => C19_full e he f, fun e he f hf => ?_⟩
  have := parseFuncCall_on_call_path e he f hf
  rw [ho e he] at this
  exact mem_reach_addSite (ho e he) (hb e (List.mem_append_left _ he)) this

/-- **C19 on the display path.** A definition is shown, listed, searched, validated on save, suspended, renamed,
    deleted through the API handlers and the client calls of `displayEntries` (all of them functions of the extracted
    table). From none of them is an exec / setenv site of the display files (client.go, model/node.go, model/status.go —
    the placeholder status `NewStatusDefault → NewStatus → FromSteps / nodeOrNil → NewNode` —, the local stores, the
    handlers and converters) reachable, and every loader function they enter is a non-evaluating one — through which,
    by `C19_full`, no definition field reaches an effect. The display does enter the loader and does build
    placeholder nodes (the last two conjuncts), so the statement is about connected code. -/
theorem C19_display :
    (∀ e ∈ displayEntries, isFunc canonD e = true) ∧
    (∀ e ∈ displayEntries, effectsFrom canonD e = [] ∧
      ∀ l ∈ loadersFrom canonD e, l ∈ nonEvaluatingEntries ∧ ∀ f : String, reach canon l f = []) ∧
    "LoadWithoutEval" ∈ loadersFrom canonD "client.GetStatus" ∧ "model.NewNode" ∈ fnsFrom canonD "client.GetStatus" :=
  -- `exec.Command` of the client is reachable from these six functions only; every row of the loader-call table names a
  -- non-evaluating loader
  have hbad : ∀ e ∈ displayEntries, ["client.Start", "client.Restart", "client.Retry", "client.StartAsync", "fdag.postAction",
      "fdag.Configure"].contains e = false := by decide +kernel
  have hload : ∀ r ∈ canonD.loaders, col r 1 ∈ nonEvaluatingEntries := by decide +kernel
  ⟨by decide +kernel,
   fun e he => ⟨effectsFrom_eq_nil canonD _ e (by decide +kernel) (by decide +kernel) (hbad e he), fun l hl => by
     obtain ⟨r, hr, -, rfl⟩ := mem_loadersFrom.mp hl
     exact ⟨hload r hr, C19_full _ (hload r hr)⟩⟩,
   mem_loadersFrom.mpr ⟨["local.GetDetails", "LoadWithoutEval"], by decide +kernel,
     mem_reachFns_of_ranked _ _ _ ["client.GetStatus", "client.getDAG", "local.GetDetails"] (by decide +kernel) (by decide +kernel) _
       (by simp), rfl⟩,
   mem_reachFns_of_ranked _ _ _ ["client.GetStatus", "client.GetLatestStatus", "model.NewStatusDefault", "model.NewStatus",
     "model.nodeOrNil", "model.NewNode"] (by decide +kernel) (by decide +kernel) _ (by simp)⟩

/-- **only starting executes, on the display side too; and the table sees the display mutant.** Start / restart / retry
    reach the client's `exec.Command`. With the call edge `NewNode → splitQuotedArgs` and the site
    `splitQuotedArgs / util.SplitCommandWithParse` of seeded mutant C19-5 in the table, every entry whose answer contains a
    placeholder status (the DAG page, the list, delete, the status calls of the client) reaches that exec site: such a
    change is a TABLE difference (tie `displaySites` / `displayEdges` breaks; re-adopting the table refutes `C19_display`). -/
theorem C19_display_sensitive :
    (∀ e ∈ startEntries, (⟨"client.Start", "exec.Command", "0"⟩ : Effect) ∈ effectsFrom canonD e) ∧
    (∀ e ∈ placeholderEntries,
      (⟨"model.splitQuotedArgs", "util.SplitCommandWithParse", "0"⟩ : Effect) ∈ effectsFrom seedC19_5 e) := by
  -- each function of the list calls a later one; the last is the seeded `splitQuotedArgs`
  have hcert : ∀ e ∈ placeholderEntries, e ∈ ["fdag.getDetail", "fdag.deleteDAG", "fdag.getList", "fdag.processUpdateStatus",
      "client.GetStatus", "client.GetAllStatus", "client.GetAllStatusPagination", "client.readStatus",
      "client.GetStatusByRequestID", "client.GetLatestStatus", "client.GetCurrentStatus", "model.NewStatusDefault",
      "model.NewStatus", "model.FromSteps", "model.nodeOrNil", "model.NewNode", "model.splitQuotedArgs"] := by decide +kernel
  -- `startEntries` read backwards is such a list for `client.Start`: the other three call it
  exact ⟨fun e he =>
    mem_effectsFrom (r := ["client.Start", "exec.Command", "0", "exec"]) (by decide +kernel) rfl
      (mem_reachFns_of_ranked _ _ _ startEntries.reverse (by decide +kernel) (by decide +kernel) e (List.mem_reverse.mpr he)),
    fun e he =>
    mem_effectsFrom (r := ["model.splitQuotedArgs", "util.SplitCommandWithParse", "0", "exec"]) (by decide +kernel) rfl
      (mem_reachFns_of_ranked (asTables seedC19_5) noOpts _ _ (by decide +kernel) (by decide +kernel) e (hcert e he))⟩

/-- the option sets of the entry points, as read from loader.go -/
example : optsOf canon "LoadYAML" = some ⟨true, false⟩ ∧ optsOf canon "LoadMetadata" = some ⟨true, true⟩ ∧
    optsOf canon "LoadWithoutEval" = some ⟨true, false⟩ ∧ optsOf canon "Load" = some ⟨false, false⟩ := by decide +kernel

end BdModel.P19

#print axioms BdModel.P19.C19_full
#print axioms BdModel.P19.C19_load_evaluates
#print axioms BdModel.P19.C19_guards_needed
#print axioms BdModel.P19.C19_call_steps
#print axioms BdModel.P19.C19_display
#print axioms BdModel.P19.C19_display_sensitive
