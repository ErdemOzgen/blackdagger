import BdModel.Proofs.Sched.Order
import BdModel.Sched.Tables
/-
  C01 — a step never starts before everything it depends on has finished.
  Quantification: every configuration `c` (any number of steps, any dependency lists, continueOn,
  retry limits, preconditions, maxActiveRuns) and every state reachable by ANY interleaving of the
  loop thread, the worker goroutines and the signal thread (`Reach c s`); per-attempt outcomes and
  precondition results are action parameters, so all outcome scripts are covered.
-/
namespace BdModel.P01
open BdModel.Sched

-- `hw` and `hi` are not needed by the proof (the statement is the one DESIGN.md and MANIFEST.json cite)
set_option linter.unusedVariables false in
/-- **C01 (gate).** Whenever a worker of step `i` is about to start its command (`starting`), is
    running it (`exec`), or is anywhere between launch and its last attempt, every step named in
    `depends` is licensed (finished, or failed/skipped with the matching continueOn) and settled
    (no worker of it can start a command any more). -/
theorem C01 (c : Cfg) (hw : WF c) (hn : NoRep c) (hf : c.tdFaults = false)
    (s : State) (hr : Reach c s) (i : Nat) (hi : i < c.n)
    (hp : (s.nd i).pc = .starting ∨ (s.nd i).pc = .exec) :
    ∀ d ∈ (c.node i).deps, Licensed c s d ∧ Settled s d := by
  refine deps_done_from c hn hf (start_init c) s hr.reachFrom i (Or.inl ?_)
  rcases hp with h | h <;> simp [h]

/-- **C01 (finished for good).** A licensed and settled dependency stays licensed and settled in
    every later state and its command is never started again: "finished its last attempt". -/
theorem C01_last_attempt (c : Cfg) (hn : NoRep c) (hf : c.tdFaults = false)
    (s s' : State) (hr : Reach c s) (a : Act) (hs : step c s a = some s') (d : Nat)
    (h : Licensed c s d ∧ Settled s d) :
    Licensed c s' d ∧ Settled s' d ∧ (s'.nd d).execs = (s.nd d).execs :=
  done_stable_from c hn hf (start_init c) s s' hr.reachFrom a hs d h

-- `hw` and `hi` are not needed by the proof (the statement is the one DESIGN.md and MANIFEST.json cite)
set_option linter.unusedVariables false in
/-- the gate also covers the whole life of the worker, incl. retry sleeps and the launch decision -/
theorem C01_worker (c : Cfg) (hw : WF c) (hn : NoRep c) (hf : c.tdFaults = false)
    (s : State) (hr : Reach c s) (i : Nat) (hi : i < c.n)
    (hp : (s.nd i).pc.active = true ∨ s.loop = .launching i) :
    ∀ d ∈ (c.node i).deps, Licensed c s d ∧ Settled s d :=
  deps_done_from c hn hf (start_init c) s hr.reachFrom i (hp.imp_left fun h e => by simp [e] at h)

/-- the readiness decision the model uses is the one extracted from `isReady` (scheduler.go) -/
theorem C01_gate_is_source (st : NStatus) (cf cs : Bool) :
    readyEffectOf Canon.Sched.isReadyTable st cf cs = some (readyEffect st cf cs) :=
  readyEffectOf_canon st cf cs

/-! non-vacuity: a diamond 0 → {1,2} → 3 in which 1 fails once and is retried; step 3 reaches
    `starting` only after both parents are finished -/
def demoCfg : Cfg :=
  { n := 4, node := fun i => match i with
      | 1 => { deps := [0], limit := 1 } | 2 => { deps := [0] } | 3 => { deps := [1, 2] } | _ => {} }

def demoActs : List Act :=
  [.visitDecide 0, .visitLaunch 0 true, .setupDone 0 true, .check 0, .execStart 0, .execEnd 0 true, .tail 0,
   .visitDecide 1, .visitLaunch 1 true, .visitDecide 2, .visitLaunch 2 true,
   .setupDone 1 true, .check 1, .execStart 1, .execEnd 1 false, .retryWake 1,
   .setupDone 2 true, .check 2, .execStart 2, .execEnd 2 true, .tail 2,
   .visitDecide 3,                                        -- not ready: 1 is `none` again
   .visitDecide 1, .visitLaunch 1 true, .setupDone 1 true, .check 1, .execStart 1, .execEnd 1 true, .tail 1,
   .visitDecide 3, .visitLaunch 3 true, .setupDone 3 true, .check 3]

example : ((runActs demoCfg (init demoCfg) demoActs).map fun s =>
    ((s.nd 3).pc, (s.nd 1).status, (s.nd 2).status, (s.nd 1).execs)) = some (.starting, .success, .success, 2) := by
  decide

end BdModel.P01

#print axioms BdModel.P01.C01
#print axioms BdModel.P01.C01_last_attempt
#print axioms BdModel.P01.C01_worker
#print axioms BdModel.P01.C01_gate_is_source
