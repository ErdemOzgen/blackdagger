import BdModel.Proofs.Log
/-
  C12 — a finished step's log holds everything the step printed.
  `run cfg attempts` = the node after first launch + retries (each attempt: setup, Execute, teardown), on the
  wiring as it is NOW (after fix 80fb8fd / F16: `done` is reset by setup, every attempt is torn down before
  the node is handed back).  An attempt is the list of Write calls its output arrives in — the theorems
  hold for EVERY chunking, every byte content, every configuration, every number of attempts.
-/
namespace BdModel.P12
open BdModel.Log

/-- the property for the last attempt `a` after the earlier attempts `as` -/
def Delivered (c : Cfg) (as : List Attempt) (a : Attempt) : Prop :=
  let s := run c (as ++ [a])
  s.log.disk = logBytes c a ∧
  (c.stdoutFile = true → ∃ pre, s.out.disk = pre ++ sinkBytes c a) ∧
  (c.stderrFile = true → ∃ pre, s.err.disk = pre ++ errBytes a)

/-- **C12 (full).** After the final teardown the log file named in the node's state holds exactly what
    the last attempt printed (stdout and stderr in order; stdout only when `stderr:` is set), the `stdout:`
    file ends with everything that attempt sent to the stdout writer, the `stderr:` file with its stderr
    bytes — for every configuration {stdout file, stderr file, output, script}, every number of earlier
    attempts, every output and every way it is cut into Write calls. -/
theorem C12_full (c : Cfg) (as : List Attempt) (a : Attempt) : Delivered c as a := by
  unfold Delivered
  rw [run_snoc]
  obtain ⟨h1, h2, h3⟩ := attempt_ok c (run c as) a
  exact ⟨h1, fun hc => ⟨_, h2 hc⟩, fun hc => ⟨_, h3 hc⟩⟩

/-- … and the stdout file holds the sink bytes of EVERY attempt, one after the other (nothing of an earlier
    attempt is lost either): after `as ++ [a]` it is the file after `as` followed by `a`'s bytes. -/
theorem C12_stdout_accumulates (c : Cfg) (as : List Attempt) (a : Attempt) (hc : c.stdoutFile = true) :
    (run c (as ++ [a])).out.disk = (run c as).out.disk ++ sinkBytes c a := by
  rw [run_snoc]
  obtain ⟨-, hout, -⟩ := attempt_ok c (run c as) a
  exact hout hc

/-- nothing is left in a buffer when the step is reported finished -/
theorem C12_flushed (c : Cfg) (as : List Attempt) (a : Attempt) :
    (run c (as ++ [a])).log.buf = [] ∧ (c.stdoutFile = true → (run c (as ++ [a])).out.buf = []) := by
  rw [run_snoc]
  exact attempt_bufs c _ a

/-- "contains every byte written to stdout": the stdout bytes are a subsequence of what reaches the
    stdout writer (they are interleaved with stderr when stderr is not redirected). -/
theorem C12_stdout_within_sink (c : Cfg) (a : Attempt) : (outBytes a).Sublist (sinkBytes c a) := by
  unfold outBytes sinkBytes logBytes
  rw [flatMap_filter, flatMap_filter]
  induction a with
  | nil => simp
  | cons ch r ih =>
    simp only [List.flatMap_cons]
    refine List.Sublist.append ?_ ih
    cases ch.1 <;> cases c.stderrFile <;> simp

/-- no temporary script file is left behind, however many attempts -/
theorem C12_script_removed (c : Cfg) (as : List Attempt) : (run c as).scriptsLeft = 0 := by
  suffices h : ∀ s : St, (as.foldl (attempt c) s).scriptsLeft = s.scriptsLeft from h {}
  induction as with
  | nil => intro s; rfl
  | cons a r ih => intro s; exact (ih _).trans (attempt_scriptsLeft c s a)

/-! regression corpus (F16, fixed by 80fb8fd): the former refutation witness now satisfies the property -/
example : (run { stdoutFile := true } [[], [(false, [7])]]).log.disk = [7] ∧
          (run { stdoutFile := true } [[], [(false, [7])]]).out.disk = [7] := by decide
example : (run { output := true } [[(false, [1])], [(false, [2, 3])]]).log.disk = [2, 3] := by decide
example : (run { script := true } [[], [], []]).scriptsLeft = 0 := by decide
/-! non-vacuity -/
example : Delivered { stdoutFile := true, output := true } [] [(false, [1, 2]), (true, [3]), (false, [4])] := by
  refine ⟨by decide, fun _ => ⟨[], by decide⟩, fun h => by cases h⟩
example : (run { stderrFile := true } [[(false, [1])], [(false, [2]), (true, [9])]]).log.disk = [2] ∧
          (run { stderrFile := true } [[(false, [1])], [(false, [2]), (true, [9])]]).err.disk = [9] := by decide
example : (run { stdoutFile := true } [[(false, [1])], [(false, [2])]]).out.disk = [1, 2] := by decide

end BdModel.P12

#print axioms BdModel.P12.C12_full
#print axioms BdModel.P12.C12_stdout_accumulates
#print axioms BdModel.P12.C12_flushed
#print axioms BdModel.P12.C12_stdout_within_sink
#print axioms BdModel.P12.C12_script_removed
