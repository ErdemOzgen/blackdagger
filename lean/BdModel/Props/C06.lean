import BdModel.Proofs.Hist
import BdModel.Proofs.HistNames
import BdModel.Proofs.HistRefine
/-
  C06 — history queries return exactly what was recorded, per DAG.
  Record layer of the store AFTER the fixes f3a91b0 (millisecond ordering, F1), fe426dd (files without a
  status are skipped, F6) and 2ac8499 (glob meta characters escaped, F2). Quantification: every store state (any number of DAGs, files,
  twins, stamps — also equal stamps —, any status lines), every operation / operation sequence.
-/
namespace BdModel.P06
open BdModel.Hist

/-- the files of DAG `d` that hold at least one complete status -/
def recorded (s : Store) (d : Nat) : List RunFile := (filesOf s d).filter (fun f => (parse f).isSome)

theorem mem_recorded {s : Store} {d : Nat} {f : RunFile} :
    f ∈ recorded s d ↔ f ∈ s.files ∧ f.dag = d ∧ (parse f).isSome = true := by
  simp only [recorded, filesOf, List.mem_filter, beq_iff_eq, and_assoc]

/-- **C06 (lookup, soundness).** A lookup by request id answers with the LAST status line of a file of
    that DAG, and that line carries the requested id: never another DAG's run, never an older status. -/
theorem C06_lookup_sound (s : Store) (d r : Nat) (f : RunFile) (l : Line) (h : find s d r = some (f, l)) :
    f ∈ filesOf s d ∧ f.lines.getLast? = some l ∧ l.req = r := by
  obtain ⟨h1, h2, h3, h4⟩ := find_some h
  exact ⟨mem_filesOf.mpr ⟨h1, h2⟩, h3, h4⟩

/-- **C06 (lookup, completeness).** If some file of the DAG ends in a status with that request id, the
    lookup finds one (no recorded run is ever "not found"). -/
theorem C06_lookup_complete (s : Store) (d r : Nat) (f : RunFile) (l : Line)
    (hf : f ∈ filesOf s d) (hl : f.lines.getLast? = some l) (hr : l.req = r) : (find s d r).isSome = true := by
  cases h : find s d r with
  | some _ => rfl
  | none => exact absurd hr (find_none h f (mem_filesOf.mp hf).1 (mem_filesOf.mp hf).2 l hl)

/-- **C06 (latest).** The latest-status query returns the last status of a most recently started run
    among those that hold a status; it answers `none` only if nothing is recorded for the DAG. -/
theorem C06_latest (s : Store) (d : Nat) :
    (∀ l, latest s d = some l →
        ∃ f ∈ recorded s d, f.lines.getLast? = some l ∧ ∀ g ∈ recorded s d, g.stamp ≤ f.stamp) ∧
    (latest s d = none ↔ recorded s d = []) := by
  have hmem : ∀ g, g ∈ newestFirst (glob s d) ∧ (parse g).isSome = true ↔ g ∈ recorded s d := fun g => by
    rw [mem_newestFirst, mem_glob, mem_recorded, and_assoc]
  constructor
  · intro l h
    obtain ⟨f, hf, hp, hall⟩ := head_filterMap_desc parse _ (newestFirst_desc (glob s d)) l h
    refine ⟨f, (hmem f).mp ⟨hf, by rw [hp]; rfl⟩, hp, fun g hg => ?_⟩
    exact hall g ((hmem g).mpr hg).1 ((hmem g).mpr hg).2
  · rw [latest, List.head?_eq_none_iff, List.filterMap_eq_nil_iff, List.eq_nil_iff_forall_not_mem]
    constructor
    · intro h g hg
      have := (hmem g).mpr hg
      rw [h g this.1] at this
      cases this.2
    · intro h g hg
      cases hp : parse g with
      | none => rfl
      | some l => exact absurd ((hmem g).mp ⟨hg, by rw [hp]; rfl⟩) (h g)

theorem recent_files (s : Store) (d : Nat) :
    ∃ D : List RunFile, (∀ n, recent s d n = (D.take n).filterMap parse) ∧ Desc D ∧
      (∀ f ∈ D, f ∈ recorded s d) ∧ (D.filterMap reqOf).Nodup ∧
      ∀ g ∈ recorded s d, ∃ f ∈ D, reqOf f = reqOf g ∧ g.stamp ≤ f.stamp := by
  have hL := newestFirst_desc (glob s d)
  obtain ⟨hpar, hnd⟩ := dedup_spec (newestFirst (glob s d)) []
  have hsub := dedup_sublist (newestFirst (glob s d)) []
  refine ⟨_, fun n => rfl, List.Pairwise.sublist hsub hL, fun f hf => ?_, hnd, fun g hg => ?_⟩
  · obtain ⟨ln, hln, _⟩ := hpar f hf
    have := mem_glob.mp (mem_newestFirst.mp (hsub.subset hf))
    exact mem_recorded.mpr ⟨this.1, this.2, by rw [hln]; rfl⟩
  · obtain ⟨h1, h2, h3⟩ := mem_recorded.mp hg
    obtain ⟨ln, hln⟩ := Option.isSome_iff_exists.mp h3
    rcases dedup_complete _ [] hL g (mem_newestFirst.mpr (mem_glob.mpr ⟨h1, h2⟩)) ln hln with hc | ⟨f, hf, hr, hle⟩
    · cases hc
    · exact ⟨f, hf, by rw [hr, reqOf, hln]; rfl, hle⟩

/-- **C06 (recent).** `recent d n` lists the last statuses of at most `n` files of the DAG, newest
    first, no run (request id) twice; and nothing newer is left out: a recorded file that is not
    listed either belongs to a run that IS listed by a file at least as new, or the list is full and
    every listed file is at least as new. (`n` distinct most recently started runs, newest first.) -/
theorem C06_recent (s : Store) (d n : Nat) :
    ∃ fs : List RunFile,
      recent s d n = fs.filterMap parse ∧ fs.length = (recent s d n).length ∧ fs.length ≤ n ∧
      (∀ f ∈ fs, f ∈ recorded s d) ∧ Desc fs ∧ (fs.filterMap reqOf).Nodup ∧
      ∀ g ∈ recorded s d, g ∉ fs →
        (∃ f ∈ fs, reqOf f = reqOf g ∧ g.stamp ≤ f.stamp) ∨ (fs.length = n ∧ ∀ f ∈ fs, g.stamp ≤ f.stamp) := by
  obtain ⟨D, hrec, (hD : D.Pairwise fun (a b : RunFile) => b.stamp ≤ a.stamp), hmem, hnd, hcomp⟩ := recent_files s d
  refine ⟨D.take n, hrec n, ?_, ?_, fun f hf => hmem f (List.mem_of_mem_take hf),
    List.Pairwise.sublist (List.take_sublist n D) hD, (List.Sublist.filterMap reqOf (List.take_sublist n D)).nodup hnd, ?_⟩
  · rw [hrec n]
    refine (List.filterMap_length_eq_length.mpr fun f hf => ?_).symm
    exact (mem_recorded.mp (hmem f (List.mem_of_mem_take hf))).2.2
  · rw [List.length_take]; exact Nat.min_le_left _ _
  · intro g hg hnot
    obtain ⟨f, hf, hr, hle⟩ := hcomp g hg
    -- `f ∈ D` carries g's request id and is at least as new; is it among the first `n`?
    rw [← List.take_append_drop n D] at hf
    rcases List.mem_append.mp hf with hft | hfd
    · exact Or.inl ⟨f, hft, hr, hle⟩
    · -- no: the list is full, and everything listed precedes `f` in `D`
      refine Or.inr ⟨?_, fun f' hf' => Nat.le_trans hle (hD.rel_of_mem_take_of_mem_drop hf' hfd)⟩
      have := List.length_pos_of_mem hfd
      rw [List.length_drop] at this
      rw [List.length_take]
      omega

/-- **C06 (independence).** An operation (open, write, close, update, retention, rename) leaves every
    query on every DAG it does not address unchanged. -/
theorem C06_independence (s : Store) (op : Op) (d' : Nat) (h : d' ∉ touches s op) :
    (∀ r, find (apply s op) d' r = find s d' r) ∧ latest (apply s op) d' = latest s d' ∧
    ∀ n, recent (apply s op) d' n = recent s d' n :=
  queries_congr (filesOf_apply s op d' h)

/-- independence for whole operation sequences -/
theorem C06_independence_seq (ops : List Op) (s : Store) (d' : Nat)
    (h : ∀ pre op post, ops = pre ++ op :: post → d' ∉ touches (pre.foldl apply s) op) :
    filesOf (ops.foldl apply s) d' = filesOf s d' := by
  induction ops generalizing s with
  | nil => rfl
  | cons op rest ih =>
    simp only [List.foldl_cons]
    rw [ih (apply s op), filesOf_apply s op d' (h [] op rest rfl)]
    intro pre op' post he
    have := h (op :: pre) op' post (by simp [he])
    simpa using this

/-- **C06 (retention).** `removeOld d days` removes exactly the files of `d` not modified for `days`
    days or more — and (by independence) nothing of any other DAG. -/
theorem C06_retention (s : Store) (d days : Nat) :
    filesOf (removeOld s d days) d = (filesOf s d).filter (fun f => f.age < days) := by
  simp only [removeOld, filesOf, List.filter_filter]
  apply List.filter_congr
  intro f _
  by_cases h : f.dag = d <;> by_cases h2 : f.age < days <;> simp [h, h2] <;> omega

/-- **C06 (rename carries every run).** After `rename d d2` nothing is left under the old name and
    every file of `d` is available, with unchanged content, under `d2`. -/
theorem C06_rename (s : Store) (d d2 : Nat) (hne : d ≠ d2) :
    filesOf (rename s d d2) d = [] ∧
    ∀ f ∈ filesOf s d, ({ f with dag := d2 } : RunFile) ∈ filesOf (rename s d d2) d2 := by
  simp only [rename, hne, if_false]
  constructor
  · simp only [filesOf, List.filter_append, List.filter_filter]
    rw [List.append_eq_nil_iff]
    constructor
    · rw [List.filter_eq_nil_iff]; intro f _; by_cases h : f.dag = d <;> simp [h]
    · rw [List.filter_eq_nil_iff]; intro f hf
      rw [List.mem_map] at hf
      obtain ⟨g, _, rfl⟩ := hf
      simp [Ne.symm hne]
  · intro f hf
    simp only [filesOf, List.filter_append, List.mem_append, List.mem_filter, List.mem_map]
    right
    refine ⟨⟨f, ?_, rfl⟩, by simp⟩
    rw [mem_glob]
    simpa [filesOf] using hf

/-! non-vacuity: two runs of DAG 0 started in the same second (stamps 1000 and 1500 ms), the older one
    compacted, one run of DAG 1; queries distinguish them -/
def demo : Store :=
  [Op.openRun 0 0 1000 7, .write 0 ⟨70, 1⟩, .openRun 1 0 1500 8, .write 1 ⟨80, 2⟩, .close 0,
   .openRun 2 1 1200 9, .write 2 ⟨90, 3⟩, .write 1 ⟨80, 4⟩].foldl apply {}

example : (latest demo 0).map (·.pay) = some 4 := by decide
example : (recent demo 0 5).map (·.pay) = [4, 1] := by decide
example : (recent demo 0 1).map (·.pay) = [4] := by decide
example : (find demo 0 70).map (·.2.pay) = some 1 := by decide
example : (find demo 1 70).map (·.2.pay) = none := by decide
example : (latest demo 1).map (·.pay) = some 3 := by decide

/-! ### string layer: which file names the per-DAG glob pattern selects (fix 2ac8499, finding F2) -/
section names
open BdModel.Hist.Names

/-- **C06 (the glob pattern of a DAG selects exactly the files named after it).** For EVERY path prefix
    `pwd` = `<data>/<name>-<md5>/<name>` — whatever characters the data directory and the DAG name
    contain, glob meta characters included — a file name matches `globPattern pwd` iff it is `pwd`,
    followed by a stretch without a path separator, followed by `.dat`. -/
theorem C06_glob (pwd name : List Char) :
    gmatch (globPattern pwd) name = true ↔ ∃ mid, name = pwd ++ mid ++ extDat ∧ sep ∉ mid := by
  unfold globPattern
  rw [gmatch_escape_append]
  constructor
  · rintro ⟨s', rfl, hg⟩
    rw [gmatch_star, gstar_iff] at hg
    obtain ⟨mid, t, rfl, hm, ht⟩ := hg
    rw [gmatch_extDat] at ht
    exact ⟨mid, by rw [ht, List.append_assoc], hm⟩
  · rintro ⟨mid, rfl, hm⟩
    refine ⟨mid ++ extDat, List.append_assoc _ _ _, ?_⟩
    rw [gmatch_star, gstar_iff]
    exact ⟨mid, extDat, rfl, hm, (gmatch_extDat _).mpr rfl⟩

/-- every file the store creates for a DAG (original or compacted twin) is selected by its pattern -/
theorem C06_glob_selects_own (pwd ts req8 : List Char) (comp : Bool) (h1 : sep ∉ ts) (h2 : sep ∉ req8) :
    gmatch (globPattern pwd) (render pwd ts req8 comp) = true := by
  rw [C06_glob]
  refine ⟨'.' :: ts ++ '.' :: req8 ++ (if comp then twinSfx else []), by simp [render, List.append_assoc], ?_⟩
  cases comp <;> simp [h1, h2, sep_plain]

/-- nothing outside the DAG's own `<dir>/<name>` prefix is ever selected (no other DAG's files, however
    its name relates to this one: shared prefix, `_c`, meta characters) -/
theorem C06_glob_only_own (pwd name : List Char) (h : gmatch (globPattern pwd) name = true) : pwd <+: name := by
  obtain ⟨mid, rfl, _⟩ := (C06_glob pwd name).mp h
  exact ⟨mid ++ extDat, by simp [List.append_assoc]⟩

/-- the unescaped pattern of the pinned tree did not select the files of `job[1]` (F2 witness) -/
example : gmatch (['d', '/', 'j', '[', '1', ']'] ++ '*' :: extDat) (render ['d', '/', 'j', '[', '1', ']'] ['t'] ['r'] false) = false := by decide
example : gmatch (globPattern ['d', '/', 'j', '[', '1', ']']) (render ['d', '/', 'j', '[', '1', ']'] ['t'] ['r'] false) = true := by decide

end names

/-! ### operation level: the store refines the run log of the property (helpers: Proofs/HistRefine.lean)

  The specification is the reference of the property itself (`Spec` of lib/hist.py, here `Hist.Spec`):
  a log of runs `SRun` = {DAG, start time, request id, last status or none, age}; `open` appends a run,
  `write`/`update` replace its last status, `rename` moves the runs of a DAG, `removeOld` forgets old
  runs. `Sim s sp` relates a store state to a log: every run has exactly one file that is its record
  (the original file while the run is open, abandoned or without a status; the `_c` twin after a close
  with a status), the last complete line of that file is (request id, last payload) of the run, its
  mtime age is the run's age, every file is the record of a run, and the recorders hold the same runs.
  Quantification: every store state, every log, every operation, every operation sequence — under the
  side condition `Admissible` (what the callers guarantee; a decidable statement about the log). -/

theorem recorded_file_run {s sp} (h : Sim s sp) {d : Nat} {f : RunFile} (hf : f ∈ recorded s d) :
    ∃ r ∈ Spec.recorded sp d, Matches f r := by
  obtain ⟨h1, h2⟩ := mem_recorded.mp hf
  obtain ⟨r, hr, m⟩ := h.file_run f h1
  exact ⟨r, Spec.mem_recorded.mpr ⟨hr, (m.recorded_iff d).mp h2⟩, m⟩

theorem recorded_run_file {s sp} (h : Sim s sp) {d : Nat} {r : SRun} (hr : r ∈ Spec.recorded sp d) :
    ∃ f ∈ recorded s d, Matches f r := by
  obtain ⟨h1, h2⟩ := Spec.mem_recorded.mp hr
  obtain ⟨f, hf, m⟩ := h.run_file r h1
  exact ⟨f, mem_recorded.mpr ⟨hf, (m.recorded_iff d).mpr h2⟩, m⟩

/-- **C06 (refinement, initial state).** The empty store is the empty log. -/
theorem C06_sim_init : Sim {} [] := by
  constructor <;> simp [writerKey]

/-- **C06 (refinement, one operation).** For every store state `s` and log `sp` with `Sim s sp` and
    every operation that is admissible in `sp`: the store after the operation is the log after the
    operation. -/
theorem C06_sim_step (s : Store) (sp : Spec) (op : HOp) (h : Sim s sp) (ha : Admissible sp op) :
    Sim (applyStore s op) (applySpec sp op) := sim_step h op ha

/-- **C06 (lookup = last status recorded for that run).** Under `Sim s sp`: the lookup of request id
    `req` in DAG `d` answers with status (req, p) iff the log has a run of `d` with that request id whose
    last recorded payload is `p`; it answers "not found" iff no recorded run of `d` has that id; and
    there is at most one run of `d` with that id. -/
theorem C06_spec_lookup (s : Store) (sp : Spec) (h : Sim s sp) (d req : Nat) :
    (∀ p, (∃ f, find s d req = some (f, ⟨req, p⟩)) ↔ ∃ r ∈ sp, r.dag = d ∧ r.req = req ∧ r.last = some p) ∧
    (find s d req = none ↔ ∀ r ∈ Spec.recorded sp d, r.req ≠ req) ∧
    (∀ a ∈ sp, ∀ b ∈ sp, a.dag = d → b.dag = d → a.req = req → b.req = req → a = b) := by
  have huniq : ∀ a ∈ sp, ∀ b ∈ sp, a.dag = d → b.dag = d → a.req = req → b.req = req → a = b :=
    fun a ha b hb h1 h2 h3 h4 => h.eq_of_clash ha hb ⟨h1.trans h2.symm, Or.inl (h3.trans h4.symm)⟩
  have hsound : ∀ f l, find s d req = some (f, l) →
      l.req = req ∧ ∃ r ∈ sp, r.dag = d ∧ r.req = req ∧ r.last = some l.pay := by
    intro f l hf
    obtain ⟨h1, h2, h3, h4⟩ := find_some hf
    obtain ⟨r, hr, m⟩ := h.file_run f h1
    obtain ⟨hs1, hs2⟩ := status_eq_some (m.status ▸ h3)
    exact ⟨h4, r, hr, m.dag.symm.trans h2, hs2.symm.trans h4, hs1⟩
  have hnone : find s d req = none → ∀ r ∈ Spec.recorded sp d, r.req ≠ req := by
    intro hn r hr hq
    obtain ⟨f, hf, m⟩ := recorded_run_file h hr
    obtain ⟨h1, h2, h3⟩ := mem_recorded.mp hf
    obtain ⟨l, hl⟩ := Option.isSome_iff_exists.mp h3
    exact find_none hn f h1 h2 l hl ((status_eq_some (m.status ▸ hl)).2.trans hq)
  refine ⟨fun p => ⟨fun ⟨f, hf⟩ => (hsound f _ hf).2, ?_⟩, ⟨hnone, fun hall => ?_⟩, huniq⟩
  · rintro ⟨r, hr, h1, h2, h3⟩
    cases hf : find s d req with
    | none => exact absurd h2 (hnone hf r (Spec.mem_recorded.mpr ⟨hr, h1, by rw [h3]; rfl⟩))
    | some fl =>
      obtain ⟨g4, r', hr', g1, g2, g3⟩ := hsound fl.1 fl.2 hf
      rw [huniq r' hr' r hr g1 h1 g2 h2, h3, Option.some.injEq] at g3
      exact ⟨fl.1, by rw [← g4, g3]⟩
  · cases hf : find s d req with
    | none => rfl
    | some fl =>
      obtain ⟨_, r, hr, h1, h2, h3⟩ := hsound fl.1 fl.2 hf
      exact absurd h2 (hall r (Spec.mem_recorded.mpr ⟨hr, h1, by rw [h3]; rfl⟩))

/-- **C06 (latest = last status of the most recently started run).** Under `Sim s sp`: the
    latest-status query of DAG `d` returns the last status of a recorded run of `d` that no recorded run
    of `d` was started after; it answers `none` iff the log has no recorded run of `d`. -/
theorem C06_spec_latest (s : Store) (sp : Spec) (h : Sim s sp) (d : Nat) :
    (∀ l, latest s d = some l →
        ∃ r ∈ Spec.recorded sp d, r.status = some l ∧ ∀ r' ∈ Spec.recorded sp d, r'.t ≤ r.t) ∧
    (latest s d = none ↔ Spec.recorded sp d = []) := by
  obtain ⟨h1, h2⟩ := C06_latest s d
  constructor
  · intro l hl
    obtain ⟨f, hf, hp, hmax⟩ := h1 l hl
    obtain ⟨r, hr, m⟩ := recorded_file_run h hf
    refine ⟨r, hr, m.status ▸ hp, fun r' hr' => ?_⟩
    obtain ⟨g, hg, mg⟩ := recorded_run_file h hr'
    rw [← mg.stamp, ← m.stamp]
    exact hmax g hg
  · rw [h2, List.eq_nil_iff_forall_not_mem, List.eq_nil_iff_forall_not_mem]
    constructor
    · intro he r hr
      obtain ⟨f, hf, _⟩ := recorded_run_file h hr
      exact he f hf
    · intro he f hf
      obtain ⟨r, hr, _⟩ := recorded_file_run h hf
      exact he r hr

theorem spec_recent_enum {s sp} (h : Sim s sp) (d : Nat) :
    ∃ R : List SRun, R.Perm (Spec.recorded sp d) ∧ R.Pairwise (fun a b => b.t ≤ a.t) ∧
      ∀ n, recent s d n = (R.take n).filterMap SRun.status := by
  obtain ⟨ρ, hρ⟩ := h.runOf
  obtain ⟨D, hrc, hD, hmem, hnd, hcomp⟩ := recent_files s d
  -- the listed files `D`, read as runs: `D.map ρ`
  have hm : ∀ f ∈ D, ρ f ∈ sp ∧ Matches f (ρ f) := fun f hf => hρ f (mem_recorded.mp (hmem f hf)).1
  have hrec : ∀ f ∈ D, ρ f ∈ Spec.recorded sp d := fun f hf =>
    Spec.mem_recorded.mpr ⟨(hm f hf).1, ((hm f hf).2.recorded_iff d).mp (mem_recorded.mp (hmem f hf)).2⟩
  have hreq : ∀ f r, Matches f r → r.last.isSome = true → reqOf f = some r.req := by
    intro f r m hs
    obtain ⟨p, hp⟩ := Option.isSome_iff_exists.mp hs
    rw [reqOf, m.status, SRun.status, hp]
    rfl
  have hR : (D.map ρ).Nodup := by
    rw [List.nodup_iff_pairwise_ne, List.pairwise_map]
    rw [List.nodup_iff_pairwise_ne, List.pairwise_filterMap] at hnd
    refine hnd.imp_of_mem fun {a b} ha hb hne e => ?_
    exact hne _ (hreq a _ (hm a ha).2 (Spec.mem_recorded.mp (hrec a ha)).2.2) _
      (hreq b _ (hm b hb).2 (Spec.mem_recorded.mp (hrec b hb)).2.2) (by rw [e])
  refine ⟨D.map ρ, ?_, ?_, fun n => ?_⟩
  · rw [List.perm_ext_iff_of_nodup hR (h.recorded_nodup d)]
    refine fun g => ⟨fun hg => ?_, fun hg => ?_⟩
    · obtain ⟨f, hf, rfl⟩ := List.mem_map.mp hg
      exact hrec f hf
    · -- a file of the request id of `g` is listed: that is the file of `g`
      obtain ⟨hgsp, hgd, hgl⟩ := Spec.mem_recorded.mp hg
      obtain ⟨fg, hfg, mg⟩ := recorded_run_file h hg
      obtain ⟨f, hf, hr, _⟩ := hcomp fg hfg
      obtain ⟨hfsp, hfd, hfl⟩ := Spec.mem_recorded.mp (hrec f hf)
      rw [hreq f _ (hm f hf).2 hfl, hreq fg g mg hgl, Option.some.injEq] at hr
      exact h.eq_of_clash hfsp hgsp ⟨hfd.trans hgd.symm, Or.inl hr⟩ ▸ List.mem_map_of_mem hf
  · rw [List.pairwise_map]
    refine hD.imp_of_mem fun {a b} ha hb hle => ?_
    rw [← (hm a ha).2.stamp, ← (hm b hb).2.stamp]
    exact hle
  · rw [hrc n, ← List.map_take, List.filterMap_map]
    exact filterMap_congr fun f hf => (hm f (List.mem_of_mem_take hf)).2.status

/-- **C06 (recent = the n most recently started runs, newest first).** Under `Sim s sp`:
    `recent d n` lists the last statuses of `min n (number of recorded runs of d)` pairwise different
    recorded runs of `d`, in the order of their start times, newest first, and every recorded run of `d`
    that is left out was started no later than every listed one. -/
theorem C06_spec_recent (s : Store) (sp : Spec) (h : Sim s sp) (d n : Nat) :
    ∃ rs : List SRun,
      recent s d n = rs.filterMap SRun.status ∧ (recent s d n).length = rs.length ∧
      rs.length = min n (Spec.recorded sp d).length ∧ rs.Nodup ∧
      (∀ r ∈ rs, r ∈ Spec.recorded sp d) ∧ rs.Pairwise (fun a b => b.t ≤ a.t) ∧
      ∀ g ∈ Spec.recorded sp d, g ∉ rs → ∀ r ∈ rs, g.t ≤ r.t := by
  obtain ⟨R, hperm, hdesc, hrec⟩ := spec_recent_enum h d
  have hmem : ∀ r ∈ R.take n, r ∈ Spec.recorded sp d := fun r hr => hperm.mem_iff.mp (List.mem_of_mem_take hr)
  refine ⟨R.take n, hrec n, ?_, ?_, ?_, hmem, hdesc.sublist (List.take_sublist n R), fun g hg hn r hr => ?_⟩
  · rw [hrec n, List.filterMap_length_eq_length]
    intro r hr
    rw [SRun.status, Option.isSome_map]
    exact (Spec.mem_recorded.mp (hmem r hr)).2.2
  · rw [List.length_take, hperm.length_eq]
  · exact ((hperm.nodup_iff).mpr (h.recorded_nodup d)).sublist (List.take_sublist n R)
  · have := hperm.mem_iff.mpr hg
    rw [← List.take_append_drop n R] at this
    exact hdesc.rel_of_mem_take_of_mem_drop hr ((List.mem_append.mp this).resolve_left hn)

/-- **C06 (refinement, operation sequences).** For EVERY sequence of operations — runs being opened,
    recorded, closed or abandoned by any number of recorders, manual status updates, renames, ageing and
    retention clean-ups over any set of DAGs — each admissible in the log state it is applied to:
    the store reached from the empty store is the log reached from the empty log. -/
theorem C06_refinement (ops : List HOp) (ha : AdmissibleSeq [] ops) :
    Sim (ops.foldl applyStore {}) (ops.foldl applySpec []) := sim_seq C06_sim_init ops ha

/-- … hence a lookup by request id returns the last status recorded for that run, -/
theorem C06_refinement_lookup (ops : List HOp) (ha : AdmissibleSeq [] ops) (d req : Nat) :
    (∀ p, (∃ f, find (ops.foldl applyStore {}) d req = some (f, ⟨req, p⟩)) ↔
        ∃ r ∈ ops.foldl applySpec [], r.dag = d ∧ r.req = req ∧ r.last = some p) ∧
    (find (ops.foldl applyStore {}) d req = none ↔ ∀ r ∈ Spec.recorded (ops.foldl applySpec []) d, r.req ≠ req) ∧
    (∀ a ∈ ops.foldl applySpec [], ∀ b ∈ ops.foldl applySpec [],
        a.dag = d → b.dag = d → a.req = req → b.req = req → a = b) :=
  C06_spec_lookup _ _ (C06_refinement ops ha) d req

/-- … the latest-status query returns the last status of the most recently started run, -/
theorem C06_refinement_latest (ops : List HOp) (ha : AdmissibleSeq [] ops) (d : Nat) :
    (∀ l, latest (ops.foldl applyStore {}) d = some l →
        ∃ r ∈ Spec.recorded (ops.foldl applySpec []) d, r.status = some l ∧
          ∀ r' ∈ Spec.recorded (ops.foldl applySpec []) d, r'.t ≤ r.t) ∧
    (latest (ops.foldl applyStore {}) d = none ↔ Spec.recorded (ops.foldl applySpec []) d = []) :=
  C06_spec_latest _ _ (C06_refinement ops ha) d

/-- … and the recent-history query returns the n most recently started runs, newest first. -/
theorem C06_refinement_recent (ops : List HOp) (ha : AdmissibleSeq [] ops) (d n : Nat) :
    ∃ rs : List SRun,
      recent (ops.foldl applyStore {}) d n = rs.filterMap SRun.status ∧
      (recent (ops.foldl applyStore {}) d n).length = rs.length ∧
      rs.length = min n (Spec.recorded (ops.foldl applySpec []) d).length ∧ rs.Nodup ∧
      (∀ r ∈ rs, r ∈ Spec.recorded (ops.foldl applySpec []) d) ∧ rs.Pairwise (fun a b => b.t ≤ a.t) ∧
      ∀ g ∈ Spec.recorded (ops.foldl applySpec []) d, g ∉ rs → ∀ r ∈ rs, g.t ≤ r.t :=
  C06_spec_recent _ _ (C06_refinement ops ha) d n

/-- … every run of the log has exactly one file in the store (its record), and no file name occurs
    twice. -/
theorem C06_refinement_one_file (ops : List HOp) (ha : AdmissibleSeq [] ops) :
    KeysNodup (ops.foldl applyStore {}) ∧
    ∀ r ∈ ops.foldl applySpec [], ∃ f, Matches f r ∧
      (ops.foldl applyStore {}).files.filter (fun g => g.key == r.fileKey) = [f] :=
  have hn := keysNodup_seq ops {} (by simp [KeysNodup])
  ⟨hn, fun r hr => (C06_refinement ops ha).one_file hn r hr⟩

/-! non-vacuity of the refinement: run 70 of DAG 0 is recorded twice, closed (compacted), edited by hand
    and renamed to DAG 1; a second run (80) of DAG 1 is started; later both files age 3 days, run 80 is
    edited (its file is fresh again) and retention (2 days) forgets run 70 -/
def rops1 : List HOp :=
  [.openRun 0 0 1000 7 70, .write 0 ⟨70, 1⟩, .write 0 ⟨70, 2⟩, .close 0, .update 0 ⟨70, 3⟩, .rename 0 1,
   .openRun 1 1 1500 8 80, .write 1 ⟨80, 4⟩]
def rops2 : List HOp := rops1 ++ [.close 1, .age 1 3, .update 1 ⟨80, 5⟩, .removeOld 1 2]

example : AdmissibleSeq [] rops1 := by decide
example : AdmissibleSeq [] rops2 := by decide
example : rops1.foldl applySpec [] =
    [{ dag := 1, t := 1000, req8 := 7, req := 70, last := some 3, comp := true },
     { dag := 1, t := 1500, req8 := 8, req := 80, last := some 4, holder := some 1 }] := by decide
example : (find (rops1.foldl applyStore {}) 1 70).map (·.2) = some ⟨70, 3⟩ := by decide
example : (find (rops1.foldl applyStore {}) 0 70).map (·.2) = none := by decide
example : latest (rops1.foldl applyStore {}) 1 = some ⟨80, 4⟩ := by decide
example : recent (rops1.foldl applyStore {}) 1 5 = [⟨80, 4⟩, ⟨70, 3⟩] := by decide
example : rops2.foldl applySpec [] =
    [{ dag := 1, t := 1500, req8 := 8, req := 80, last := some 5, comp := true }] := by decide
example : (find (rops2.foldl applyStore {}) 1 70).map (·.2) = none := by decide
example : (find (rops2.foldl applyStore {}) 1 80).map (·.2) = some ⟨80, 5⟩ := by decide
example : latest (rops2.foldl applyStore {}) 1 = some ⟨80, 5⟩ := by decide
example : recent (rops2.foldl applyStore {}) 1 5 = [⟨80, 5⟩] := by decide
/-- the side condition is not vacuous either: renaming a DAG whose run is still being recorded is refused -/
example : ¬ AdmissibleSeq [] [.openRun 0 0 1000 7 70, .rename 0 1] := by decide
/-- … and for a reason: the status written after such a rename is lost (the log holds it, the lookup
    does not find it) — callers must not rename a DAG that is running -/
example : (find ([HOp.openRun 0 0 1000 7 70, .rename 0 1, .write 0 ⟨70, 1⟩].foldl applyStore {}) 1 70).map (·.2) = none ∧
    ([HOp.openRun 0 0 1000 7 70, .rename 0 1, .write 0 ⟨70, 1⟩].foldl applySpec []).map (fun r => (r.dag, r.status)) =
      [(1, some ⟨70, 1⟩)] := by decide

end BdModel.P06

#print axioms BdModel.P06.C06_lookup_sound
#print axioms BdModel.P06.C06_lookup_complete
#print axioms BdModel.P06.C06_latest
#print axioms BdModel.P06.C06_recent
#print axioms BdModel.P06.C06_independence
#print axioms BdModel.P06.C06_independence_seq
#print axioms BdModel.P06.C06_retention
#print axioms BdModel.P06.C06_rename
#print axioms BdModel.P06.C06_glob
#print axioms BdModel.P06.C06_glob_selects_own
#print axioms BdModel.P06.C06_glob_only_own
#print axioms BdModel.P06.C06_sim_init
#print axioms BdModel.P06.C06_sim_step
#print axioms BdModel.P06.C06_spec_lookup
#print axioms BdModel.P06.C06_spec_latest
#print axioms BdModel.P06.C06_spec_recent
#print axioms BdModel.P06.C06_refinement
#print axioms BdModel.P06.C06_refinement_lookup
#print axioms BdModel.P06.C06_refinement_latest
#print axioms BdModel.P06.C06_refinement_recent
#print axioms BdModel.P06.C06_refinement_one_file
