import BdModel.Proofs.Auth
/-
  C17 — no API request gets through without valid credentials when auth is on.
  All statements quantify over EVERY header byte string, path and configuration.
-/
namespace BdModel.P17
open BdModel.Auth

/-- **C17 (soundness).** A request reaches the API only on an API path and only if no auth is
    configured, or the header decodes (Basic, base64, first colon) to exactly the configured user
    and password, or its second space-separated field is exactly the configured, non-empty token. -/
theorem C17_sound (cfg : Cfg) (path hdr : Bytes) (h : decide cfg path hdr = .api) :
    ((cfg.basic = none ∧ cfg.token = none) ∨
     (∃ u p, cfg.basic = some (u, p) ∧ parseBasic hdr = some (u, p)) ∨
     (∃ t, cfg.token = some t ∧ t ≠ [] ∧ field1 hdr = some t)) ∧
    ∃ p, isPrefixOf apiPrefix p = true ∧ (path = cfg.basePath ++ p ∨ (cfg.basePath = [] ∧ path = p)) := by
  obtain ⟨hchain, p, hapi, hpath⟩ := decide_api_path cfg path hdr h
  exact ⟨authChain_sound cfg hdr hchain, p, hapi, .inl hpath⟩

/-- **C17 (401).** On an API path the chain either passes the request or answers 401 — nothing else;
    with soundness: a request presenting neither secret is answered 401. -/
theorem C17_401 (cfg : Cfg) (hdr : Bytes) :
    authChain cfg hdr = .api ∨ authChain cfg hdr = .unauthorized := by
  unfold authChain
  simp only
  repeat' split
  all_goals first | exact tokenStage_api_or_401 _ _ _ | simp

/-- **C17 (completeness, Basic).** `Basic base64(user:password)` with the configured credentials is
    always accepted when basic auth is configured — with or without a token configured. -/
theorem C17_complete_basic (cfg : Cfg) (u p : Bytes) (hb : cfg.basic = some (u, p))
    (hu : WFBytes u) (hp : WFBytes p) (hc : (58 : Nat) ∉ u) :
    authChain cfg (basicPrefix ++ encode (u ++ [58] ++ p)) = .api := by
  -- the first field of the header is "Basic" (`basicPrefix` without its space)
  have hsplit : splitSpace (basicPrefix ++ encode (u ++ [58] ++ p)) = _ :=
    splitSpace_append [66, 97, 115, 105, 99] _ (by decide)
  unfold authChain
  simp only [hsplit, hb, parseBasic_encode u p hu hp hc]
  rw [if_neg (by simp [bearer])]
  simp [tokenStage_authed]

/-- **C17 (completeness, Bearer).** `Bearer token` with the configured non-empty, space-free token is
    always accepted when token auth is configured — with or without basic auth configured. -/
theorem C17_complete_token (cfg : Cfg) (t : Bytes) (ht : cfg.token = some t) (hne : t ≠ []) (hs : (32 : Nat) ∉ t) :
    authChain cfg (bearer ++ [32] ++ t) = .api := by
  have hsplit : splitSpace (bearer ++ [32] ++ t) = [bearer, t] := by
    rw [List.append_assoc, List.singleton_append, splitSpace_append _ _ (by decide), splitSpace_nospace _ hs]
  have hts : tokenStage cfg [bearer, t] false = .api := by
    simp [tokenStage, ht, hne]
  unfold authChain
  simp only [hsplit]
  split
  · exact hts
  · rw [if_pos]
    · exact hts
    · simp [ht]

/-- **C17 (no auth).** With no auth configured every request passes. -/
theorem C17_noauth (cfg : Cfg) (hdr : Bytes) (hb : cfg.basic = none) (ht : cfg.token = none) :
    authChain cfg hdr = .api := by
  unfold authChain
  simp only [hb]
  unfold tokenStage
  simp [ht]

/-- **C17 (every API path goes through the chain).** The request of the model is (URL path, Authorization header);
    the path only selects the side (`/api…` after the base path → chain, anything else → the web UI's handler) and the
    chain never looks at it again: for EVERY continuation `rest` of `/api` — `/v1/docs/../dags`, `/v1//dags`,
    `/v1/swagger.json/../dags`, … — the decision is `authChain cfg hdr`. So the model has no path-dependent exemption;
    that the code has none either is what the tie of `configureAPI` (the router is handed WHOLE to
    `SetupGlobalMiddleware`) and the real-server path stream of the check (`path_stream` in lib/p_c17.py: every route of
    the spec × ~35 raw spellings × credentials) establish — which handler the go-openapi router picks after the chain
    (it matches on the cleaned, still escaped path) is NOT modelled. -/
theorem C17_path_blind (cfg : Cfg) (rest hdr : Bytes) :
    decide cfg (cfg.basePath ++ apiPrefix ++ rest) hdr = authChain cfg hdr := by
  have hne : cfg.basePath ++ apiPrefix ++ rest ≠ [47] := by
    intro h
    have := congrArg List.length h
    simp [apiPrefix] at this
    omega
  unfold Auth.decide
  rw [if_neg (fun h => hne h.2)]
  by_cases hb : cfg.basePath = []
  · simp [hb, isPrefixOf, apiPrefix]
  · simp [hb, isPrefixOf, apiPrefix, List.append_assoc]

/-- base64 round trip used by completeness -/
theorem C17_base64 (bs : Bytes) (h : WFBytes bs) : decode (encode bs) = some bs := decode_encode bs h

/-! non-vacuity / concrete witnesses: user "u", password "p:q", token "tok" -/
def cfgBoth : Cfg := { basic := some ([117], [112, 58, 113]), token := some [116, 111, 107] }
example : authChain cfgBoth (basicPrefix ++ encode ([117] ++ [58] ++ [112, 58, 113])) = .api := by decide
example : authChain cfgBoth (bearer ++ [32] ++ [116, 111, 107]) = .api := by decide
example : authChain cfgBoth (bearer ++ [32] ++ [116, 111]) = .unauthorized := by decide          -- truncated token
example : authChain cfgBoth [] = .unauthorized := by decide                                       -- no header
example : authChain cfgBoth (bearer ++ [32] ++ [112, 58, 113]) = .unauthorized := by decide       -- password as bearer
-- base path "/x": "/x/api/v" goes to the chain, "/api" is outside the base path
example : decide { cfgBoth with basePath := [47, 120] } [47, 120, 47, 97, 112, 105, 47, 118] [] = .unauthorized := by decide
example : decide { cfgBoth with basePath := [47, 120] } [47, 97, 112, 105] [] = .notFound := by decide
-- "/api/v1/docs/../dags" without a header: 401 like any other API path
example : decide cfgBoth ([47, 97, 112, 105] ++ [47, 118, 49, 47, 100, 111, 99, 115, 47, 46, 46, 47, 100, 97, 103, 115]) [] = .unauthorized := by decide

end BdModel.P17

#print axioms BdModel.P17.C17_sound
#print axioms BdModel.P17.C17_401
#print axioms BdModel.P17.C17_complete_basic
#print axioms BdModel.P17.C17_complete_token
#print axioms BdModel.P17.C17_noauth
#print axioms BdModel.P17.C17_path_blind
#print axioms BdModel.P17.C17_base64
