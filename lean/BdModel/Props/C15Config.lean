import BdModel.Config.Resolver
/-
  C15, the way a limit reaches the run: `maxActiveRuns: k` of an installation's base configuration is respected only if every
  command resolves the SAME base configuration file the installation keeps.  These are the resolution rules of
  internal/config (model: BdModel/Config/Resolver.lean, tied to the real `config.Load()` by the correspondence
  `correspondence:resolver` of lib/x_resolver.py) and the merge of the base's limit with the DAG file's.
-/
namespace BdModel.P15Config
open BdModel.Config.Resolver

theorem resolve_home {e : Env} {v : Path} (h : getenv e.bdHome = some v) :
    resolve e = { configDir := v, dagsDir := v ++ ["dags"], baseConfigFile := v ++ ["base.yaml"], useXDGRules := false } := by
  unfold resolve newResolver; rw [h]; rfl

theorem resolve_legacy {e : Env} (h : getenv e.bdHome = none) (hl : e.legacyExists = true) :
    resolve e = { configDir := legacyPath e, dagsDir := legacyPath e ++ ["dags"],
                  baseConfigFile := legacyPath e ++ ["base.yaml"], useXDGRules := false } := by
  unfold resolve newResolver; rw [h, hl]; rfl

theorem resolve_xdg {e : Env} (h : getenv e.bdHome = none) (hl : e.legacyExists = false) :
    resolve e = { configDir := xdgHome e ++ [appName], dagsDir := xdgHome e ++ [appName, "dags"],
                  baseConfigFile := xdgHome e ++ [appName, "base.yaml"], useXDGRules := true } := by
  unfold resolve newResolver; rw [h, hl]; rfl

theorem base_of_source {e : Env} (h1 : getenv e.envBase = none) :
    baseConfigFile e = (cfgSource e).getD (defaultBase e) := by
  unfold baseConfigFile viperGet; rw [h1]; cases cfgSource e <;> rfl

theorem cfgSource_dir {e : Env} (h0 : e.explicitCfg = none) : cfgSource e = e.cfgKey (configDir e) := by
  unfold cfgSource; rw [h0]

theorem base_default {e : Env} (h1 : getenv e.envBase = none) (h0 : e.explicitCfg = none) (h2 : e.cfgKey (configDir e) = none) :
    baseConfigFile e = defaultBase e := by
  rw [base_of_source h1, cfgSource_dir h0, h2]; rfl

theorem paths_of_resolve {e : Env} {r : Res} (hr : resolve e = r) :
    configDir e = r.configDir ∧ defaultBase e = r.baseConfigFile ∧ dagsDir e = r.dagsDir ∧
    (getenv e.envBase = none → e.explicitCfg = none → e.cfgKey r.configDir = none → baseConfigFile e = r.baseConfigFile) := by
  subst hr
  exact ⟨rfl, rfl, rfl, base_default⟩

/-- BLACKDAGGER_HOME set (and not empty) ⇒ the configuration directory IS that directory and the base configuration is its
    `base.yaml` (and the DAGs its `dags/`), whatever else exists — legacy directory, XDG directory, XDG_CONFIG_HOME; an explicit
    `baseConfig` (key of THAT directory's config.yaml, or BLACKDAGGER_BASE_CONFIG) is the only thing that redirects it. -/
theorem C15_resolver_home_overrides (e : Env) (v : Path) (h : getenv e.bdHome = some v) :
    configDir e = v ∧ defaultBase e = v ++ ["base.yaml"] ∧ dagsDir e = v ++ ["dags"] ∧
    (getenv e.envBase = none → e.explicitCfg = none → e.cfgKey v = none → baseConfigFile e = v ++ ["base.yaml"]) :=
  paths_of_resolve (resolve_home h)

/-- no BLACKDAGGER_HOME and `~/.blackdagger` exists ⇒ the legacy directory is the configuration directory and its `base.yaml`
    the base configuration — WHETHER OR NOT the XDG directory exists (the answer does not change when `xdgExists` does) and
    whatever XDG_CONFIG_HOME says.  (The fact the seeded change C15-6 broke.) -/
theorem C15_resolver_legacy_wins (e : Env) (h : getenv e.bdHome = none) (hl : e.legacyExists = true) :
    configDir e = e.home ++ [".blackdagger"] ∧
    defaultBase e = e.home ++ [".blackdagger", "base.yaml"] ∧
    dagsDir e = e.home ++ [".blackdagger", "dags"] ∧
    (getenv e.envBase = none → e.explicitCfg = none → e.cfgKey (e.home ++ [".blackdagger"]) = none →
      baseConfigFile e = e.home ++ [".blackdagger", "base.yaml"]) ∧
    (∀ b x, resolve { e with xdgExists := b, xdgConfigHome := x } = resolve e) := by
  obtain ⟨hc, hd, hg, hb⟩ := paths_of_resolve (resolve_legacy h hl)
  simp only [legacyPath, List.append_assoc, List.cons_append, List.nil_append] at hc hd hg hb
  refine ⟨hc, hd, hg, hb, fun b x => ?_⟩
  rw [resolve_legacy h hl]
  exact resolve_legacy (e := { e with xdgExists := b, xdgConfigHome := x }) h hl

/-- neither ⇒ the XDG rules: `${XDG_CONFIG_HOME:-~/.config}/blackdagger` is the configuration directory and its `base.yaml` the
    base configuration. -/
theorem C15_resolver_xdg_otherwise (e : Env) (h : getenv e.bdHome = none) (hl : e.legacyExists = false) :
    configDir e = xdgHome e ++ ["blackdagger"] ∧
    defaultBase e = xdgHome e ++ ["blackdagger", "base.yaml"] ∧
    dagsDir e = xdgHome e ++ ["blackdagger", "dags"] ∧
    (getenv e.xdgConfigHome = none → xdgHome e = e.home ++ [".config"]) ∧
    (∀ x, getenv e.xdgConfigHome = some x → xdgHome e = x) ∧
    (getenv e.envBase = none → e.explicitCfg = none → e.cfgKey (xdgHome e ++ ["blackdagger"]) = none →
      baseConfigFile e = xdgHome e ++ ["blackdagger", "base.yaml"]) := by
  obtain ⟨hc, hd, hg, hb⟩ := paths_of_resolve (resolve_xdg h hl)
  exact ⟨hc, hd, hg, fun hx => by unfold xdgHome; rw [hx], fun x hx => by unfold xdgHome; rw [hx], hb⟩

/-- an explicit base configuration overrides the default, in viper's order: a non-empty BLACKDAGGER_BASE_CONFIG first, then the
    `baseConfig:` key of the ONE configuration file read — the file given with `--config` if any (then no config.yaml is read),
    else the config.yaml OF THE RESOLVED DIRECTORY (no other directory's) — then the default. -/
theorem C15_resolver_explicit_base (e : Env) :
    (∀ v, getenv e.envBase = some v → baseConfigFile e = v) ∧
    (∀ k v, getenv e.envBase = none → e.explicitCfg = some k → baseConfigFile e = k.getD (defaultBase e) ∧
        (k = some v → baseConfigFile e = v)) ∧
    (∀ v, getenv e.envBase = none → e.explicitCfg = none → e.cfgKey (configDir e) = some v → baseConfigFile e = v) ∧
    (getenv e.envBase = none → e.explicitCfg = none → e.cfgKey (configDir e) = none → baseConfigFile e = defaultBase e) ∧
    (∀ k, (∀ d, d = configDir e → k d = e.cfgKey d) → baseConfigFile { e with cfgKey := k } = baseConfigFile e) := by
  refine ⟨fun v h => by unfold baseConfigFile viperGet; rw [h],
          fun k v h1 h0 => ?_,
          fun v h1 h0 h2 => by rw [base_of_source h1, cfgSource_dir h0, h2]; rfl,
          fun h1 h0 h2 => base_default h1 h0 h2, fun k hk => ?_⟩
  · have hfile : baseConfigFile e = k.getD (defaultBase e) := by
      rw [base_of_source h1]; unfold cfgSource; rw [h0]
    exact ⟨hfile, fun hk => by rw [hfile, hk]; rfl⟩
  · show viperGet e.envBase (match e.explicitCfg with | some k => k | none => k (configDir e)) (defaultBase e) =
         viperGet e.envBase (match e.explicitCfg with | some k => k | none => e.cfgKey (configDir e)) (defaultBase e)
    rw [hk _ rfl]

/-- which of the three cases of `newResolver` an environment is in -/
inductive Case | home | legacy | xdg
deriving DecidableEq, Repr

def HomeCase (e : Env) : Prop := ∃ v, getenv e.bdHome = some v
def LegacyCase (e : Env) : Prop := getenv e.bdHome = none ∧ e.legacyExists = true
def XdgCase (e : Env) : Prop := getenv e.bdHome = none ∧ e.legacyExists = false

/-- exactly one of the three cases applies to every environment, and the answer is a function of what the code reads: two
    environments that agree on BLACKDAGGER_HOME, XDG_CONFIG_HOME, HOME, the existence of the legacy directory, the config.yaml
    keys, BLACKDAGGER_BASE_CONFIG and the `--config` file get the same directory and the same base configuration (the existence of the XDG directory
    is not among them). -/
theorem C15_resolver_total (e : Env) :
    ((HomeCase e ∧ ¬ LegacyCase e ∧ ¬ XdgCase e) ∨ (¬ HomeCase e ∧ LegacyCase e ∧ ¬ XdgCase e) ∨
     (¬ HomeCase e ∧ ¬ LegacyCase e ∧ XdgCase e)) ∧
    (∀ e' : Env, e'.bdHome = e.bdHome → e'.xdgConfigHome = e.xdgConfigHome → e'.home = e.home →
       e'.legacyExists = e.legacyExists → e'.cfgKey = e.cfgKey → e'.envBase = e.envBase → e'.explicitCfg = e.explicitCfg →
       resolve e' = resolve e ∧ baseConfigFile e' = baseConfigFile e) := by
  constructor
  · unfold HomeCase LegacyCase XdgCase
    cases hb : getenv e.bdHome <;> cases hl : e.legacyExists <;> simp
  · intro e' h1 h2 h3 h4 h5 h6 h7
    cases e; cases e'
    simp only at h1 h2 h3 h4 h5 h6 h7
    subst h1 h2 h3 h4 h5 h6 h7
    exact ⟨rfl, rfl⟩

/-- the limit a run is under: a DAG file that does not set `maxActiveRuns` (0 / absent) runs under the base configuration's; a
    DAG file's own non-zero limit wins, larger or smaller. -/
theorem C15_limit_inherited (baseLimit dagLimit : Nat) :
    effectiveLimit baseLimit 0 = baseLimit ∧
    (dagLimit ≠ 0 → effectiveLimit baseLimit dagLimit = dagLimit) ∧
    (effectiveLimit baseLimit dagLimit = 0 ↔ baseLimit = 0 ∧ dagLimit = 0) := by
  refine ⟨by simp [effectiveLimit], fun h => by simp [effectiveLimit, h], ?_⟩
  unfold effectiveLimit
  by_cases h : dagLimit = 0 <;> simp [h]

/-! ### the seeded change C15-6 (`legacy only if the XDG directory is absent`) violates `C15_resolver_legacy_wins` -/

/-- what `C15_resolver_legacy_wins` says of a resolver, as a predicate on the resolver -/
def LegacyWins (r : Env → Res) : Prop :=
  ∀ e : Env, getenv e.bdHome = none → e.legacyExists = true →
    (r e).configDir = e.home ++ [".blackdagger"] ∧ (r e).baseConfigFile = e.home ++ [".blackdagger", "base.yaml"]

/-- the resolver of the unchanged tree passes the test that the seeded change fails below -/
theorem legacyWins_real : LegacyWins resolve := fun e h hl => by
  obtain ⟨hdir, hbase, -⟩ := C15_resolver_legacy_wins e h hl
  exact ⟨hdir, hbase⟩

/-- the layout `both` of lib/x_c15_cmd.py: `~/.blackdagger` and `~/.config/blackdagger` exist, nothing set -/
def bothLayout : Env :=
  { bdHome := none, xdgConfigHome := none, home := ["H"], legacyExists := true, xdgExists := true,
    cfgKey := fun _ => none, envBase := none }

theorem C15_6_mutant_refuted : ¬ LegacyWins resolveC15_6 := by
  intro h
  have := (h bothLayout (by decide) (by decide)).2
  revert this
  decide

/-- and the base configuration a command of the changed tree loads in that layout is the XDG directory's -/
example : baseConfigFileC15_6 bothLayout = ["H", ".config", "blackdagger", "base.yaml"] := by decide
example : baseConfigFile bothLayout = ["H", ".blackdagger", "base.yaml"] := by decide

/-! ### non-vacuity: every case has an environment, and the explicit settings act -/

def envhome : Env := { bothLayout with bdHome := some ["H", "bdhome"] }
def xdgenv : Env := { bothLayout with legacyExists := false, xdgConfigHome := some ["H", "cfgroot"] }
def cfgkey : Env :=
  { bothLayout with cfgKey := fun d => if d = ["H", ".blackdagger"] then some ["H", "custom", "base.yaml"]
                                       else if d = ["H", ".config", "blackdagger"] then some ["H", "other", "base.yaml"] else none }

example : HomeCase envhome ∧ baseConfigFile envhome = ["H", "bdhome", "base.yaml"] := ⟨⟨_, rfl⟩, by decide⟩
example : LegacyCase bothLayout := ⟨rfl, rfl⟩
example : XdgCase xdgenv ∧ baseConfigFile xdgenv = ["H", "cfgroot", "blackdagger", "base.yaml"] := ⟨⟨rfl, rfl⟩, by decide⟩
example : baseConfigFile { bothLayout with legacyExists := false } = ["H", ".config", "blackdagger", "base.yaml"] := by decide
example : baseConfigFile cfgkey = ["H", "custom", "base.yaml"] := by decide
example : baseConfigFile { cfgkey with envBase := some ["H", "env", "b.yaml"] } = ["H", "env", "b.yaml"] := by decide
/-- `--config FILE`: FILE's key, not the directory's config.yaml; the directory (DAGs) stays the resolved one -/
example : baseConfigFile { cfgkey with explicitCfg := some (some ["H", "custom", "flag.yaml"]) } = ["H", "custom", "flag.yaml"] ∧
          baseConfigFile { cfgkey with explicitCfg := some none } = ["H", ".blackdagger", "base.yaml"] ∧
          dagsDir { cfgkey with explicitCfg := some none } = ["H", ".blackdagger", "dags"] := by decide
/-- a variable set to the empty string is an unset one -/
example : baseConfigFile { cfgkey with envBase := some [], bdHome := some [] } = ["H", "custom", "base.yaml"] := by decide
example : effectiveLimit 2 0 = 2 ∧ effectiveLimit 2 5 = 5 ∧ effectiveLimit 2 1 = 1 ∧ effectiveLimit 0 0 = 0 := by decide

end BdModel.P15Config

#print axioms BdModel.P15Config.C15_resolver_home_overrides
#print axioms BdModel.P15Config.C15_resolver_legacy_wins
#print axioms BdModel.P15Config.C15_resolver_xdg_otherwise
#print axioms BdModel.P15Config.C15_resolver_explicit_base
#print axioms BdModel.P15Config.C15_resolver_total
#print axioms BdModel.P15Config.C15_limit_inherited
#print axioms BdModel.P15Config.C15_6_mutant_refuted
