import BdModel.Proofs.Sched.Limit
import BdModel.Proofs.Sched.Termination
/-
  C15 — no more steps run at once than maxActiveRuns allows.
-/
namespace BdModel.P15
open BdModel.Sched

/-- **C15 (status count).** With maxActiveRuns = k > 0 at most k steps are in state running, in
    every state reachable by any interleaving. -/
theorem C15_running (c : Cfg) (s : State) (hr : Reach c s) (hk : 0 < c.maxActive) :
    runningCount c s ≤ c.maxActive :=
  runningCount_le_from c (start_init c) s hr.reachFrom hk

/-- **C15 (commands).** At most k commands are executing or waiting out a retry interval — indeed at
    most k workers exist between launch and their last attempt — also after a stop, when statuses
    have been rewritten to canceled while the processes still run. -/
theorem C15 (c : Cfg) (hn : NoRep c) (s : State) (hr : Reach c s) (hk : 0 < c.maxActive) :
    executing c s ≤ c.maxActive :=
  executing_le_from c hn (start_init c) s hr.reachFrom hk

theorem C15_workers (c : Cfg) (hn : NoRep c) (s : State) (hr : Reach c s) (hk : 0 < c.maxActive) :
    activeWorkers c s ≤ c.maxActive :=
  activeWorkers_le_from c hn (start_init c) s hr.reachFrom hk

/-- k = 0 is "no limit": the gate is not consulted (three independent steps all run at once) -/
def demo0 : Cfg := { n := 3, node := fun _ => {}, maxActive := 0 }
def launch (i : Nat) : List Act := [.visitDecide i, .visitLaunch i true, .setupDone i true, .check i, .execStart i]
example : ((runActs demo0 (init demo0) (launch 0 ++ launch 1 ++ launch 2)).map fun s => executing demo0 s) = some 3 := by
  decide

/-- non-vacuity with k = 1: the second step is not launched while the first executes -/
def demo1 : Cfg := { n := 2, node := fun _ => {}, maxActive := 1 }
example : ((runActs demo1 (init demo1) (launch 0 ++ [.visitDecide 1])).map fun s => (executing demo1 s, s.loop)) =
    some (1, .scanning) := by decide


-- `hn` is not needed by the proof (the statement is the one DESIGN.md and MANIFEST.json cite)
set_option linter.unusedVariables false in
/-- **C15 (the limit never prevents a run from completing) / deadlock freedom.** In every reachable
    state of an unstopped, unfinished run — whatever `maxActiveRuns` is — something can move: either
    some step is running and its worker has an enabled action (while its command runs: the command's
    end), or one visit of the scheduling loop changes the state (launches a step or labels one). The
    limit can therefore only ever make the loop wait for a running step, never for nothing. -/
theorem C15_never_blocks (c : Cfg) (hw : WF c) (hrk : Ranked c) (hn : NoRep c) (s : State) (hr : Reach c s)
    (hscan : s.loop = .scanning) (hnc : s.canceled = false) (hnf : isFinished c s = false) :
    (∃ j, j < c.n ∧ (s.nd j).status = .running ∧ ∃ a s', step c s a = some s' ∧
        (a = .setupDone j true ∨ a = .check j ∨ a = .execStart j ∨ a = .execEnd j true ∨ a = .postWrite j ∨
         a = .retryWake j ∨ a = .tail j)) ∨
    (∃ i s', step c s (.visitDecide i) = some s' ∧ s' ≠ s) :=
  never_blocks_from c hw hrk (start_init c) s hr.reachFrom hscan hnc hnf

/-- **C15 (the limit never prevents a run from completing) / termination.** Whatever
    `maxActiveRuns` is: (1) every transition of a run strictly decreases the natural-number `measure`
    (retries left, position of every worker, position of the loop), leaves the state unchanged (a loop
    visit that finds nothing to do — e.g. because the limit is reached —, a repeated stop), or is a
    signal delivery, which never increases it; (2) as long as `Schedule` has not returned, a
    measure-decreasing transition is enabled — the limit can make the loop wait, but then a running
    step's worker can move; (3) so from every reachable state at most `measure c s` productive
    transitions lead to `Schedule` having returned. Environment assumption made explicit by the model:
    a running command ends (`execEnd` is enabled while it runs), by itself or by the stop escalation. -/
theorem C15_completes (c : Cfg) (hw : WF c) (hrk : Ranked c) (hn : NoRep c) (s : State) (hr : Reach c s) :
    (∀ a s', step c s a = some s' →
        measure c s' < measure c s ∨ s' = s ∨
          ((∃ i sig ovr, a = .signalNode i sig ovr) ∧ measure c s' ≤ measure c s)) ∧
    (s.loop ≠ .returned → ∃ a s', step c s a = some s' ∧ measure c s' < measure c s) ∧
    (∀ as, descents c s as ≤ measure c s) ∧
    (∃ as s', runActs c s as = some s' ∧ s'.loop = .returned ∧ as.length ≤ measure c s) := by
  have h0 := start_init c
  have hr' := hr.reachFrom
  exact ⟨fun a s' hs => step_measure c hn h0 s hr' a s' hs,
         fun hnr => productive_enabled c hw hrk hn h0 s hr' hnr,
         fun as => descents_le c hn h0 as s hr',
         can_return c hw hrk hn h0 _ s hr' rfl⟩

/-- non-vacuity: with k = 1 and the first step finished, the waiting second step is launched -/
example : ((runActs demo1 (init demo1) (launch 0 ++ [.execEnd 0 true, .tail 0, .visitDecide 1])).map fun s => s.loop) =
    some (.launching 1) := by decide

end BdModel.P15

#print axioms BdModel.P15.C15_running
#print axioms BdModel.P15.C15
#print axioms BdModel.P15.C15_workers
#print axioms BdModel.P15.C15_never_blocks
#print axioms BdModel.P15.C15_completes
