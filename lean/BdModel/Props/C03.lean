import BdModel.Proofs.Sched.Limit
import BdModel.Sched.Argv
import BdModel.Proofs.Lock
/-
  C03 — each runnable step runs exactly once; retries are bounded; dry-run runs nothing.
-/
namespace BdModel.P03
open BdModel.Sched

/-- **C03 (bookkeeping).** In every reachable state the number of command starts of a step equals its
    recorded retry count, plus one while/after its current attempt. -/
theorem C03_execs (c : Cfg) (hn : NoRep c) (hd : c.dry = false) (s : State) (hr : Reach c s) (i : Nat) :
    (s.nd i).execs = (s.nd i).retry + (if (s.nd i).ranLast then 1 else 0) :=
  execs_eq_from c hn hd (start_init c) s hr.reachFrom i rfl

/-- **C03 (bounded).** The retry count never exceeds `retryPolicy.limit`. -/
theorem C03_bounded (c : Cfg) (s : State) (hr : Reach c s) (i : Nat) :
    (s.nd i).retry ≤ (c.node i).limit :=
  retry_le_limit_from c s hr.reachFrom i rfl

-- `hw`, `hl` and `hi` are not needed by the proof (the statement is the one DESIGN.md and MANIFEST.json cite)
set_option linter.unusedVariables false in
/-- **C03 (final accounting)** of a run that was neither stopped nor timed out:
    finished ⇒ executed retryCount + 1 times; failed ⇒ set-up failure, or all limit + 1 attempts used;
    canceled ⇒ never executed; skipped ⇒ not executed in its last launch, and never if it was skipped
    because of a dependency. -/
theorem C03_final (c : Cfg) (hw : WF c) (hn : NoRep c) (hdry : c.dry = false) (hf : c.tdFaults = false)
    (s : State) (hr : Reach c s) (hc : s.canceled = false) (ht : s.timedOut = false)
    (hl : LoopDone s) (i : Nat) (hi : i < c.n) :
    ((s.nd i).status = .success → (s.nd i).execs = (s.nd i).retry + 1) ∧
    ((s.nd i).status = .error →
        ((s.nd i).setupFailed = true ∧ (s.nd i).execs = (s.nd i).retry) ∨
        ((s.nd i).execs = (c.node i).limit + 1 ∧ (s.nd i).retry = (c.node i).limit)) ∧
    ((s.nd i).status = .cancel → (s.nd i).execs = 0) ∧
    ((s.nd i).status = .skipped →
        (s.nd i).execs = (s.nd i).retry ∧ ((s.nd i).preSkip = false → (s.nd i).execs = 0)) :=
  final_counts_from c hn hdry hf (start_init c) s hr.reachFrom hc ht i rfl

/-- **C03 (dry-run).** In dry-run mode no step command is ever started. -/
theorem C03_dry (c : Cfg) (hd : c.dry = true) (s : State) (hr : Reach c s) (i : Nat) :
    (s.nd i).execs = 0 :=
  dry_no_exec_from c hd s hr.reachFrom i

/-! non-vacuity: limit 2, fails twice, succeeds on the third attempt -/
def demo : Cfg := { n := 1, node := fun _ => { limit := 2 } }
def attempt (ok : Bool) : List Act :=
  [.visitDecide 0, .visitLaunch 0 true, .setupDone 0 true, .check 0, .execStart 0, .execEnd 0 ok]
example : ((runActs demo (init demo) (attempt false ++ [.retryWake 0] ++ attempt false ++ [.retryWake 0] ++
    attempt true ++ [.tail 0, .teardown 0 true, .deferred 0, .loopExit])).map fun s =>
    ((s.nd 0).status, (s.nd 0).execs, (s.nd 0).retry, s.loop)) = some (.success, 3, 2, .waiting) := by decide


/-! ### the command line of retried attempts (node.go `setupExec`, fix d91a64b; finding F12) -/
section argv
open BdModel.Argv

/-- **C03 (every attempt runs the step's own command).** For every step (string form or argument
    list, with or without `script:`) and any number of attempts, attempt k is started with exactly the
    command and arguments of the definition, followed by ITS OWN script file and nothing else — so a
    retry re-executes the same command and can succeed. -/
theorem C03_argv (s : StepCmd) (sfs : List Nat) :
    Argv.runs Argv.attempt s s.args sfs = sfs.map (fun sf => s.cmd :: (if s.script then s.args ++ [sf] else s.args)) := by
  induction sfs with
  | nil => rfl
  | cons sf rest ih =>
    simp only [Argv.runs, Argv.attempt, List.map_cons]
    cases s.strForm <;> simp [ih]

/-- on the pinned tree an argument-list step with `script:` handed attempt 2 the (removed) script of
    attempt 1 as well: `sh <script 1> <script 2>` — the retry could never succeed (F12) -/
theorem C03_argv_pinned_refuted :
    Argv.runs Argv.attemptPinned { cmd := 0, args := [], strForm := false, script := true } [] [101, 102] = [[0, 101], [0, 101, 102]] := by
  decide

example : Argv.runs Argv.attempt { cmd := 0, args := [], strForm := false, script := true } [] [101, 102] = [[0, 101], [0, 102]] := by decide

end argv

/-- **C03 (dry-run writes no history).** In every world reachable by ANY interleaving of any number of
    agents (model of `Agent.Run`'s call order, area Lock: setup, preconditions, `if a.dry { return
    a.dryRun() }` BEFORE the lock, the probe, `setupDatabase`, the first status write and the socket), an
    agent started in dry-run mode has performed no history operation, written no status record, and
    touched neither socket nor lock; with `C03_dry` (no command is started in a dry run of the scheduler)
    this is the dry-run clause in full. -/
theorem C03_dry_no_history (w : BdModel.Lock.World) (h : BdModel.Lock.Reach w) (a : Nat)
    (hd : (w.agents a).dry = true) :
    (w.agents a).hist = 0 ∧ (w.agents a).recs = 0 ∧ (w.agents a).execs = 0 ∧ (w.agents a).hexecs = 0 ∧
    (w.agents a).binds = 0 ∧ (w.agents a).unlinks = 0 := by
  obtain ⟨⟨h1, h2, h3, h4, h5, h6⟩, -⟩ := BdModel.Lock.reach_dry h a hd
  exact ⟨h3, h4, h1, h2, h6, h5⟩

/-- non-vacuity: a dry agent runs through setup, preconditions and the dry run and is done -/
example : ((BdModel.Lock.run (BdModel.Lock.init [{ dag := 0, dry := true, steps := 2 }])
    [(0, .setup true), (0, .precond true), (0, .dryRun)]).map fun w => ((w.agents 0).pc, (w.agents 0).hist)) =
    some (.done, 0) := by decide

end BdModel.P03

#print axioms BdModel.P03.C03_execs
#print axioms BdModel.P03.C03_bounded
#print axioms BdModel.P03.C03_final
#print axioms BdModel.P03.C03_dry
#print axioms BdModel.P03.C03_dry_no_history
#print axioms BdModel.P03.C03_argv
#print axioms BdModel.P03.C03_argv_pinned_refuted
