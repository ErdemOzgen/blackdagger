import BdModel.Proofs.HistCrash
import BdModel.Props.C06
/-
  C07 — recorded history survives a crash at any instant.
  `crashStates s op` lists EVERY state a kill of the process can leave behind while it performs `op`
  on store state `s` (prefixes of the
  operation's mutating system calls; a write torn at any byte is the state before it, because the
  reader ignores a trailing fragment). Quantification: every store state `s` (any prior history),
  every operation, every crash state of it.
-/
namespace BdModel.P07
open BdModel.Hist

/-- the status line the operation is in the middle of recording, if any -/
def opLine : COp → Option Line
  | .write _ l => some l
  | .update _ l => some l
  | _ => none

/-- proof-side name of the conclusion of `C07_recording`, whose statement spells it out: what is promised of the
    file `f'` that answers for `f` (status `l` before `op` began on `s`); the proof closes by unfolding it -/
def Survives (s : Store) (op : COp) (f : RunFile) (l : Line) (f' : RunFile) : Prop :=
  SameRun f f' ∧
    (parse f' = some l ∨ (∃ l', opLine op = some l' ∧ parse f' = some l') ∨
     (∃ g ∈ s.files, SameRun f g ∧ (parse g).isSome ∧ parse f' = parse g))

/-- **C07 (recording operations never lose a status).** A kill at any point of `Open`, `Write`,
    `Close` (compaction) or `Update` leaves, for every file `f` that held a status `l` before the
    operation began, a file of the same run in the same DAG directory whose status is `l`, or the
    status the operation was recording, or the status of another file of that run (the original whose
    content compaction was copying into the twin). -/
theorem C07_recording (s : Store) (op : COp) (hwo : ∀ w k, writerKey s w = some k → k.comp = false)
    (hop : ∀ d days, op ≠ .removeOld d days) (hop2 : ∀ d d2, op ≠ .rename d d2)
    (s' : Store) (hs : s' ∈ crashStates s op) (f : RunFile) (hf : f ∈ s.files) (l : Line) (hl : parse f = some l) :
    ∃ f' ∈ s'.files, SameRun f f' ∧
      (parse f' = some l ∨ (∃ l', opLine op = some l' ∧ parse f' = some l') ∨
       (∃ g ∈ s.files, SameRun f g ∧ (parse g).isSome ∧ parse f' = parse g)) := by
  -- `hop`, `hop2`: retention and rename remove / move files and have statements of their own (`C07_removeOld`,
  -- `C07_rename`). `hwo`: recorders have ORIGINAL files open, so that the twin `Close` writes is another file than
  -- the one it unlinks; it holds in every reachable store (`WritersOrig_reachable` through `writerKey_comp`).
  -- a file that is still there answers for itself
  have keep : Survives s op f l f := ⟨SameRun.refl f, Or.inl hl⟩
  -- `Write` and `Update`: one append of the status being recorded
  have app : ∀ k l', opLine op = some l' → ∃ f' ∈ (appendLine s k l').files, Survives s op f l f' := by
    intro k l' ho
    obtain ⟨f', hf', hk, h⟩ := appendLine_survive s k l' f hf
    refine ⟨f', hf', sameRun_of_key hk, ?_⟩
    split at h
    · exact Or.inr (Or.inl ⟨l', ho, h⟩)
    · exact Or.inl (h ▸ hl)
  cases op with
  | openRun w d t r8 =>
    simp only [crashStates, List.mem_cons, List.not_mem_nil, or_false] at hs
    rcases hs with rfl | rfl
    · exact ⟨f, hf, keep⟩
    · refine ⟨f, ?_, keep⟩
      simp only [openRun]
      split
      · exact hf
      · exact List.mem_append_left _ hf
  | write w l' =>
    simp only [crashStates, List.mem_cons, List.not_mem_nil, or_false] at hs
    rcases hs with rfl | rfl
    · exact ⟨f, hf, keep⟩
    · simp only [write]
      split
      · exact app _ l' rfl
      · exact ⟨f, hf, keep⟩
  | update d l' =>
    simp only [crashStates, List.mem_cons, List.not_mem_nil, or_false] at hs
    rcases hs with rfl | rfl
    · exact ⟨f, hf, keep⟩
    · simp only [update]
      split
      · exact app _ l' rfl
      · exact ⟨f, hf, keep⟩
  | removeOld d days => exact absurd rfl (hop d days)
  | rename d d2 => exact absurd rfl (hop2 d d2)
  | close w =>
    simp only [crashStates, closeStates] at hs
    cases hw : writerKey s w with
    | none =>
      simp only [hw, List.mem_cons, List.not_mem_nil, or_false] at hs
      subst hs
      exact ⟨f, hf, keep⟩
    | some k =>
      simp only [hw] at hs
      cases hp : (s.files.find? (fun f => f.key == k)).bind parse with
      | none =>
        simp only [hp, List.mem_cons, List.not_mem_nil, or_false] at hs
        rcases hs with rfl | rfl
        · exact ⟨f, hf, keep⟩
        · exact ⟨f, by simp [close, hw, hp, hf], keep⟩
      | some lk =>
        simp only [hp, List.mem_cons, List.not_mem_nil, or_false] at hs
        -- the writer's file `g` and its status `lk`
        obtain ⟨g, hgfind, hgp⟩ := Option.bind_eq_some_iff.mp hp
        have hgmem : g ∈ s.files := List.mem_of_find?_eq_some hgfind
        have hgkey : g.key = k := by simpa using List.find?_some hgfind
        -- a file holding `lk` has the status of `g`; a file named like the twin is of the run of `g`
        have fromTwin : ∀ f', parse f' = some lk → SameRun f g →
            ∃ g ∈ s.files, SameRun f g ∧ (parse g).isSome ∧ parse f' = parse g :=
          fun f' hp' hsr => ⟨g, hgmem, hsr, by rw [hgp]; rfl, hp'.trans hgp.symm⟩
        have hkg : ∀ f' : RunFile, f'.key = { k with comp := true } → SameRun g f' :=
          fun f' e => sameRun_of_key (hgkey ▸ e)
        -- survival through "twin created" and "twin written"
        have hc := mem_closeTwinCreated s k f hf
        obtain ⟨f', hf', hk', h'⟩ := appendLine_survive (closeTwinCreated s k) { k with comp := true } lk f hc
        have hgood : Survives s (.close w) f l f' := by
          refine ⟨sameRun_of_key hk', ?_⟩
          split at h'
          · rename_i hfk
            exact Or.inr (Or.inr (fromTwin f' h' (hkg f hfk).symm))
          · exact Or.inl (h' ▸ hl)
        rcases hs with rfl | rfl | rfl | rfl
        · exact ⟨f, hf, keep⟩
        · exact ⟨f, hc, keep⟩
        · exact ⟨f', hf', hgood⟩
        · rw [close_files s w k lk hw hp]
          by_cases hfk : f.key = k
          · -- the original is unlinked: the twin (written before) carries the run's status
            obtain ⟨t, ht, htk⟩ := twin_in_created s k
            obtain ⟨t', ht', htk', hpt⟩ := appendLine_survive (closeTwinCreated s k) { k with comp := true } lk t ht
            rw [if_pos htk] at hpt
            rw [htk] at htk'
            have hfg : SameRun f g := sameRun_of_key (hgkey.trans hfk.symm)
            refine ⟨t', List.mem_filter.mpr ⟨ht', ?_⟩, hfg.trans (hkg t' htk'), Or.inr (Or.inr (fromTwin t' hpt hfg))⟩
            rw [htk', bne_iff_ne]
            intro e
            have := congrArg Key.comp e
            rw [hwo w k hw] at this
            cases this
          · exact ⟨f', List.mem_filter.mpr ⟨hf', by rw [hk', bne_iff_ne]; exact hfk⟩, hgood⟩

/-- the hypothesis of `C07_recording` holds in every store reachable from the empty one: a recording
    process always has an ORIGINAL (non-twin) file open -/
def WritersOrig (s : Store) : Prop := ∀ p ∈ s.writers, p.2.comp = false

theorem writerKey_comp (s : Store) (h : WritersOrig s) (w : Nat) (k : Key) (hk : writerKey s w = some k) : k.comp = false := by
  obtain ⟨p, hf, rfl⟩ := Option.map_eq_some_iff.mp hk
  exact h p (List.mem_of_find?_eq_some hf)

theorem WritersOrig_apply (s : Store) (op : Op) (h : WritersOrig s) : WritersOrig (apply s op) := by
  cases op with
  | openRun w d t r8 =>
    intro p hp
    simp only [apply, openRun, List.mem_cons, List.mem_filter] at hp
    rcases hp with rfl | hp
    · rfl
    · exact h p hp.1
  | write w l =>
    simp only [apply, write]
    split
    · exact h
    · exact h
  | close w =>
    simp only [apply, close]
    split
    · exact h
    · split
      · intro p hp; exact h p (List.mem_filter.mp hp).1
      · split <;> (intro p hp; exact h p (List.mem_filter.mp hp).1)
  | update d l =>
    simp only [apply, update]
    split <;> exact h
  | removeOld d days => exact h
  | age d days => exact h
  | rename d d2 =>
    simp only [apply, rename]
    split <;> exact h

theorem WritersOrig_reachable (ops : List Op) : WritersOrig (ops.foldl apply {}) :=
  List.foldlRecOn ops apply (fun _ hp => nomatch hp) fun s h op _ => WritersOrig_apply s op h

/-- **C07 (retention interrupted).** A kill in the middle of `RemoveOld d days` has removed nothing but
    files of `d` that were due for removal. -/
theorem C07_removeOld (s : Store) (d days : Nat) (s' : Store) (hs : s' ∈ crashStates s (.removeOld d days))
    (f : RunFile) (hf : f ∈ s.files) :
    f ∈ s'.files ∨ ∃ g ∈ filesOf s d, g.age ≥ days ∧ g.key = f.key := by
  simp only [crashStates, List.mem_map] at hs
  obtain ⟨j, _, rfl⟩ := hs
  simp only [removeOldPrefix, List.mem_filter]
  by_cases h : (((glob s d).filter (fun f => f.age ≥ days)).take j).any (fun g => g.key == f.key) = true
  · right
    rw [List.any_eq_true] at h
    obtain ⟨g, hg, hk⟩ := h
    have hg' := List.mem_filter.mp (List.mem_of_mem_take hg)
    rw [mem_glob] at hg'
    exact ⟨g, by simp [filesOf, hg'.1.1, hg'.1.2], by simpa using hg'.2, by simpa using hk⟩
  · left
    exact ⟨hf, by simpa using h⟩

/-- **C07 (rename interrupted).** A kill in the middle of `Rename d d2` leaves every file either where
    it was or, unchanged, under the new name — never nowhere. -/
theorem C07_rename (s : Store) (d d2 : Nat) (s' : Store) (hs : s' ∈ crashStates s (.rename d d2))
    (f : RunFile) (hf : f ∈ s.files) :
    f ∈ s'.files ∨ (f.dag = d ∧ ({ f with dag := d2 } : RunFile) ∈ s'.files) := by
  simp only [crashStates] at hs
  split at hs
  · simp at hs; subst hs; exact Or.inl hf
  · simp only [List.mem_map] at hs
    obtain ⟨j, _, rfl⟩ := hs
    simp only [renamePrefix, List.mem_map]
    by_cases h : ((glob s d).take j).any (fun g => g.key == f.key) = true
    · right
      constructor
      · rw [List.any_eq_true] at h
        obtain ⟨g, hg, hk⟩ := h
        have hg' := mem_glob.mp (List.mem_of_mem_take hg)
        have : g.key = f.key := by simpa using hk
        have := congrArg Key.dag this
        simp only [RunFile.key] at this
        rw [← this]; exact hg'.2
      · exact ⟨f, hf, by simp [h]⟩
    · left
      exact ⟨f, hf, by simp [h]⟩

/-- **C07 (queries keep answering).** In EVERY store state — in particular every crash state — the
    latest-status query answers with a recorded status whenever one exists (it never fails on a file
    that holds no status yet), and a lookup finds every status that some file ends in. -/
theorem C07_queries_total (s' : Store) (d : Nat) :
    (P06.recorded s' d ≠ [] → (latest s' d).isSome) ∧
    (∀ f ∈ filesOf s' d, ∀ l, parse f = some l → (find s' d l.req).isSome) := by
  constructor
  · intro h
    cases hl : latest s' d with
    | none => exact absurd ((P06.C06_latest s' d).2.mp hl) h
    | some _ => rfl
  · intro f hf l hl
    exact P06.C06_lookup_complete s' d l.req f l hf hl rfl

/-! non-vacuity: a run with two statuses is being compacted; the four crash states of `Close` all
    answer the lookup with the run's last status (pay = 2) -/
def demo : Store := [Op.openRun 0 0 1000 7, .write 0 ⟨70, 1⟩, .write 0 ⟨70, 2⟩].foldl apply {}

example : (crashStates demo (.close 0)).map (fun s' => ((find s' 0 70).map (·.2.pay), (latest s' 0).map (·.pay), s'.files.length)) =
    [(some 2, some 2, 1), (some 2, some 2, 2), (some 2, some 2, 2), (some 2, some 2, 1)] := by decide
example : (crashStates demo (.openRun 1 0 2000 8)).map (fun s' => (latest s' 0).map (·.pay)) = [some 2, some 2] := by decide

/-- **C07 (recent-history never lists a run twice).** In EVERY store state — in particular the crash
    state in which both the compacted twin and the original of a run exist (kill between the twin's
    write and the original's unlink) — `recent n` lists no request id twice, so the duplicate cannot
    displace the n-th most recent run (finding F29, fixed by 9dcbd59). -/
theorem C07_recent_full (s' : Store) (d n : Nat) : ((recent s' d n).map (·.req)).Nodup := by
  obtain ⟨D, hrec, -, -, hnd, -⟩ := P06.recent_files s' d
  rw [hrec n]
  have : ((D.take n).filterMap parse).map (·.req) = (D.take n).filterMap reqOf := by
    rw [List.map_filterMap]
    rfl
  rw [this]
  exact (List.Sublist.filterMap reqOf (List.take_sublist n D)).nodup hnd

/-- two completed runs, the newer one being compacted -/
def demo2 : Store :=
  [Op.openRun 0 0 1000 7, .write 0 ⟨70, 1⟩, .close 0, .openRun 1 0 2000 8, .write 1 ⟨80, 2⟩].foldl apply {}

/-- the crash state that used to list run 80 twice and hide run 70 now lists both runs once -/
example : (recent (closeTwinWritten demo2 ⟨0, 2000, 8, false⟩ ⟨80, 2⟩) 0 2).map (·.req) = [80, 70] := by decide

end BdModel.P07

#print axioms BdModel.P07.C07_recording
#print axioms BdModel.P07.WritersOrig_reachable
#print axioms BdModel.P07.C07_removeOld
#print axioms BdModel.P07.C07_rename
#print axioms BdModel.P07.C07_queries_total
#print axioms BdModel.P07.C07_recent_full
