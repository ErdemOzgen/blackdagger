import BdModel.Proofs.HistCache
/-
  C06 / C07 — the history store's READ CACHE (internal/persistence/filecache, used by
  `ReadStatusRecent` / `ReadStatusToday` through `cache.LoadLatest(file, loader)`) never hides a
  recorded status: "the latest / recent queries return the LAST status recorded" (C06) and "the
  interrupted run is returned with a status no older than the last one whose write had been
  acknowledged" (C07) also hold for a long-lived reader that has answered earlier queries.

  Model: Hist/Cache.lean. Quantification:
  EVERY operation list from the empty state (creates, appends of any size ≥ 1 byte that move the
  mtime by any number of seconds INCLUDING 0, unlinks, invalidations, evictions, loads with appends or
  an unlink landing between their stat, read and store), under `Admissible`: no name is created
  twice. Files only grow while they exist under one name — that is how `append` is defined (the
  writer's O_APPEND tie, C06/C07), not a further hypothesis.
-/
namespace BdModel.P07Cache
open BdModel.Hist.Cache

/-- **Coherent** is an invariant: in every state an admissible history reaches, every cached entry of
    an existing file was taken from a version not longer than the present one (`entry.size ≤ file.size`),
    the file holds a status, and equal sizes mean equal data. -/
theorem C07_cache_coherent (ops : List Op) (hadm : Admissible ops) :
    ∀ f e fi, (exec init ops).cache f = some e → (exec init ops).files f = some fi →
      e.size ≤ fi.size ∧ 0 < fi.size ∧ (e.size = fi.size → e.data = fi.data) :=
  coherent_reachable ops hadm

/-- **C07 (a query with no concurrent write returns the current status), total form.** After ANY
    admissible history, a `LoadLatest` with no concurrent write answers `quietAnswer` of the file as it
    is: a stat error for a name that does not exist (a removed run is NOT answered from the cache), EOF
    for a file without a status, and otherwise exactly the file's current last status. No hypothesis on
    mtimes or sizes: appends in the same second, equal line lengths, empty files with any mtime
    (since fix F46 also the epoch), evictions at any point are all covered. -/
theorem C07_cache_current_full (ops : List Op) (hadm : Admissible ops) (f : Nat) :
    (step (exec init ops) (.load f [] [])).2 = quietAnswer ((exec init ops).files f) :=
  quiet_load (exec init ops) (coherent_reachable ops hadm) f

/-- … in particular the status whose write was acknowledged before the query began. (This is the
    clause the two seeded bugs broke.) -/
theorem C07_cache_current (ops : List Op) (hadm : Admissible ops) (f : Nat) (fi : File)
    (hfile : (exec init ops).files f = some fi) (hne : 0 < fi.size) :
    (step (exec init ops) (.load f [] [])).2 = .data fi.data := by
  rw [C07_cache_current_full ops hadm f, hfile, quietAnswer, readOut_pos hne]

/-- **C07 (a query never panics).** In ANY state (reachable or not), whatever lands in between, the
    real `LoadLatest` — and every other operation — answers with a status or an error. -/
theorem C07_cache_never_panics (s : State) (op : Op) : (step s op).2 ≠ .panic := by
  cases op with
  | load f pre post => exact load_no_panic s f pre post false
  | loadRm f pre => exact load_no_panic s f pre [] true
  | append f w => simp only [step, stepV]; split <;> nofun
  | create f w => nofun
  | remove f => nofun
  | invalidate f => nofun
  | evict f => nofun

/-- REGRESSION (finding F46, fixed by 99b4ced): before the fix a file that was still empty (the run
    was opened, nothing written) with mtime = epoch and no entry made the query panic — the zero
    `Entry[T]{}` is "not stale" against it and `item.(Entry[T])` was applied to the nil map item. The
    code as it is now answers EOF. -/
example : (runWith stepPreF46 init [.create 0 ⟨0, 0, 0⟩, .load 0 [] []]).2 = [.ok, .panic] := by decide
example : (run init [.create 0 ⟨0, 0, 0⟩, .load 0 [] []]).2 = [.ok, .errEmpty] := by decide
example : (run init [.create 0 ⟨0, 0, 0⟩, .load 0 [] [], .append 0 ⟨3, 0, 7⟩, .load 0 [] [], .load 0 [] []]).2 =
    [.ok, .errEmpty, .ok, .data 7, .data 7] := by decide

/-- **C07 (a query overlapped by appends returns a version of its own time span, never an older
    one).** `fi` = the file at the query's stat; `pre` = the appends landing between stat and read,
    `post` = those between read and store. Either the loader ran: the answer is what the file held
    after exactly `pre` (the version at the read), and the file ends as `fi` after `pre ++ post`;
    or the entry was used: then it IS the status the file held at the stat, and nothing else
    happened. -/
theorem C07_cache_linearizable (ops : List Op) (hadm : Admissible ops) (f : Nat) (fi : File)
    (hfile : (exec init ops).files f = some fi) (pre post : List Write) :
    ((step (exec init ops) (.load f pre post)).2 = readOut (applyWrites fi pre) ∧
      (step (exec init ops) (.load f pre post)).1.files f = some (applyWrites fi (pre ++ post)))
    ∨ ((step (exec init ops) (.load f pre post)).2 = .data fi.data ∧ 0 < fi.size ∧
        (step (exec init ops) (.load f pre post)).1 = exec init ops) :=
  load_linearizable (exec init ops) (coherent_reachable ops hadm) f fi hfile pre post

/-- corollary in "one of the versions" form: the answer is what `ParseFile` yields on the file after
    the first `k` of the appends that preceded the read, for some `k` — a version that existed between
    the query's stat and its store; versions older than the stat are excluded. -/
theorem C07_cache_linearizable_versions (ops : List Op) (hadm : Admissible ops) (f : Nat) (fi : File)
    (hfile : (exec init ops).files f = some fi) (pre post : List Write) :
    ∃ k, k ≤ pre.length ∧ (step (exec init ops) (.load f pre post)).2 = readOut (applyWrites fi (pre.take k)) := by
  rcases C07_cache_linearizable ops hadm f fi hfile pre post with ⟨h, _⟩ | ⟨h, hpos, _⟩
  · exact ⟨pre.length, Nat.le_refl _, by rw [List.take_length]; exact h⟩
  · refine ⟨0, Nat.zero_le _, ?_⟩
    rw [h, List.take_zero, applyWrites_nil, readOut_pos hpos]

/-- **C07 (no stale view can persist), total form.** After ANY admissible history `ops`, once writers
    are quiet, however many queries / invalidations / evictions `qs` follow, a query answers
    `quietAnswer` of the file as the writers left it: the first query and every later one. -/
theorem C07_cache_no_stale_persist_full (ops qs : List Op) (hadm : Admissible ops) (hq : ∀ q ∈ qs, q.quiet = true)
    (f : Nat) :
    (step (exec init (ops ++ qs)) (.load f [] [])).2 = quietAnswer ((exec init ops).files f) := by
  have hadm' : Admissible (ops ++ qs) := by
    unfold Admissible at *
    rw [created_append, created_quiet qs hq, List.append_nil]
    exact hadm
  have hfiles : (exec init (ops ++ qs)).files = (exec init ops).files := by
    rw [exec_append, exec_quiet_files qs _ hq]
  rw [C07_cache_current_full (ops ++ qs) hadm' f, hfiles]

/-- … in particular a file that holds a status is answered with that status -/
theorem C07_cache_no_stale_persist (ops qs : List Op) (hadm : Admissible ops) (hq : ∀ q ∈ qs, q.quiet = true)
    (f : Nat) (fi : File) (hfile : (exec init ops).files f = some fi) (hne : 0 < fi.size) :
    (step (exec init (ops ++ qs)) (.load f [] [])).2 = .data fi.data := by
  rw [C07_cache_no_stale_persist_full ops qs hadm hq f, hfile, quietAnswer, readOut_pos hne]

/-- **C07 (a query fails iff there is nothing to return).** In every reachable state a load (with
    appends landing in between) returns an error iff the name does not exist at the stat or the file
    holds no status at the read; the stat error is returned iff the name does not exist; and a failed
    load stores nothing. -/
theorem C07_cache_error_iff_absent (ops : List Op) (hadm : Admissible ops) (f : Nat) (pre post : List Write) :
    ((step (exec init ops) (.load f pre post)).2.isErr = true ↔
      ((exec init ops).files f = none ∨ ∃ fi, (exec init ops).files f = some fi ∧ (applyWrites fi pre).size = 0)) ∧
    ((step (exec init ops) (.load f pre post)).2 = .errStat ↔ (exec init ops).files f = none) ∧
    ((step (exec init ops) (.load f pre post)).2.isErr = true →
      (step (exec init ops) (.load f pre post)).1.cache = (exec init ops).cache) := by
  -- the first two clauses come out of one case analysis of the answer
  refine (fun h12 => ⟨h12.1, h12.2, fun h => load_err_cache _ f pre post false h⟩ : _ ∧ _ → _) ?_
  cases hfile : (exec init ops).files f with
  | none => simp [step, stepV, loadV, hfile, Out.isErr]
  | some fi =>
    -- the answer is `readOut` of the version read, or the entry's data (then the file holds a status)
    rcases C07_cache_linearizable ops hadm f fi hfile pre post with ⟨h, _⟩ | ⟨h, hpos, _⟩
    · rw [h]
      by_cases hz : (applyWrites fi pre).size = 0 <;> simp [readOut, hz, Out.isErr]
    · have := applyWrites_size_le fi pre
      rw [h]
      simp [Out.isErr, Nat.ne_of_gt (Nat.lt_of_lt_of_le hpos this)]

/-- the file is unlinked between the stat and the read (retention / compaction running next to the
    query): in ANY state, the load fails iff the name did not exist at the stat, or the loader was
    needed (no entry, or a stale one: then its open fails); a failed load stores nothing. -/
theorem C07_cache_error_iff_absent_rm (s : State) (f : Nat) (pre : List Write) :
    ((step s (.loadRm f pre)).2.isErr = true ↔
      (s.files f = none ∨ s.cache f = none ∨
        ∃ fi e, s.files f = some fi ∧ s.cache f = some e ∧ isStale e fi = true)) ∧
    ((step s (.loadRm f pre)).2.isErr = true → (step s (.loadRm f pre)).1.cache = s.cache) := by
  refine ⟨?_, fun h => load_err_cache s f pre [] true h⟩
  show (loadV .real s f pre [] true).2.isErr = true ↔ _
  refine loadV_cases s f pre [] true (fun hfile => ?_) (fun fi e hfile hce hst => ?_) fun fi hfile hst => ?_
  · simp [hfile, Out.isErr]
  · simp [hfile, hce, hst, Out.isErr]
  · cases hce : s.cache f with
    | none => simp [Out.isErr]
    | some e => simp [Out.isErr, hfile, hst e hce]

/-! ### REFUTATION WITNESSES: the theorems are sensitive to exactly these edits of the code -/

/-- mutant (a): `Store` uses a stat taken AFTER the loader returned. One append lands between the read
    and the store (here even in the same second and 1 byte long; any append does): the entry pairs the
    OLD status with the NEW size/mtime, and the next quiet query returns the old status 1 although the
    file's last status is 2. The real code answers 2. -/
def witnessA : List Op := [.create 0 ⟨1, 100, 1⟩, .load 0 [] [⟨0, 0, 2⟩], .load 0 [] []]

example : Admissible witnessA := by decide
example : (runWith stepMutA init witnessA).2 = [.ok, .data 1, .data 1] ∧
    ((runWith stepMutA init witnessA).1.files 0).map (·.data) = some 2 := by decide
example : (runWith stepMutA init [.create 0 ⟨1, 100, 1⟩, .load 0 [] [⟨7, 3, 2⟩], .load 0 [] [], .load 0 [] []]).2 =
    [.ok, .data 1, .data 1, .data 1] := by decide
example : (run init witnessA).2 = [.ok, .data 1, .data 2] := by decide

/-- mutant (b): `IsStale` compares only the mtime. An append in the SAME second (`ModTime().Unix()` has
    one-second resolution) after a query leaves the entry "fresh": the next quiet query returns the old
    status 1, the file's last status is 2. The real code (size comparison) answers 2. -/
def witnessB : List Op := [.create 0 ⟨1, 100, 1⟩, .load 0 [] [], .append 0 ⟨0, 0, 2⟩, .load 0 [] []]

example : Admissible witnessB := by decide
example : (runWith stepMutB init witnessB).2 = [.ok, .data 1, .ok, .data 1] ∧
    ((runWith stepMutB init witnessB).1.files 0).map (·.data) = some 2 := by decide
example : (run init witnessB).2 = [.ok, .data 1, .ok, .data 2] := by decide

/-- the admissibility hypothesis is needed: a name re-created (after an unlink) with a file of the same
    length in the same second is answered from the old entry (real code!). jsondb never does this: a
    history file's name carries the run's start time in ms and its request id. -/
def witnessRecreate : List Op := [.create 0 ⟨1, 100, 1⟩, .load 0 [] [], .remove 0, .create 0 ⟨1, 100, 2⟩, .load 0 [] []]

example : ¬ Admissible witnessRecreate := by decide
example : (run init witnessRecreate).2 = [.ok, .data 1, .ok, .ok, .data 1] := by decide

/-! ### non-vacuity: a non-trivial reachable state meets every hypothesis -/

/-- two files; file 0: a query overlapped by an append before the read (same second) and one after it,
    then a same-second append; file 1: queried, evicted, appended, its name unlinked at the end -/
def demo : List Op :=
  [.create 0 ⟨0, 100, 0⟩, .append 0 ⟨3, 0, 1⟩, .create 1 ⟨5, 100, 10⟩, .load 1 [] [],
   .load 0 [⟨3, 0, 2⟩] [⟨3, 1, 3⟩], .append 0 ⟨3, 0, 4⟩, .evict 1, .append 1 ⟨0, 0, 11⟩, .load 1 [] [], .remove 1]

example : Admissible demo := by decide
example : (run init demo).2 = [.ok, .ok, .ok, .data 10, .data 2, .ok, .ok, .ok, .data 11, .ok] := by decide
/-- the state holds a STALE entry for file 0 (data 2, size 4) next to the file (data 4, size 16) … -/
example : (exec init demo).cache 0 = some ⟨2, 4, 100⟩ ∧ (exec init demo).files 0 = some ⟨16, 101, 4⟩ ∧
    (exec init demo).cache 1 = some ⟨11, 6, 100⟩ ∧ (exec init demo).files 1 = none := by decide
/-- … and the quiet queries answer the current status / the stat error, as the theorems say -/
example : (run (exec init demo) [.load 0 [] [], .load 0 [] [], .load 1 [] []]).2 = [.data 4, .data 4, .errStat] := by decide

end BdModel.P07Cache

#print axioms BdModel.P07Cache.C07_cache_coherent
#print axioms BdModel.P07Cache.C07_cache_current_full
#print axioms BdModel.P07Cache.C07_cache_current
#print axioms BdModel.P07Cache.C07_cache_never_panics
#print axioms BdModel.P07Cache.C07_cache_linearizable
#print axioms BdModel.P07Cache.C07_cache_linearizable_versions
#print axioms BdModel.P07Cache.C07_cache_no_stale_persist_full
#print axioms BdModel.P07Cache.C07_cache_no_stale_persist
#print axioms BdModel.P07Cache.C07_cache_error_iff_absent
#print axioms BdModel.P07Cache.C07_cache_error_iff_absent_rm
