import BdModel.Proofs.CronDedupe
/-
  C09 — the scheduler daemon starts each DAG exactly at its scheduled minutes.

  Instants are seconds since Go's zero time; a tick is `60*m` (minute `m`), `fires s m` is "schedule s
  matches minute m" (UTC civil calendar), `runTick dags susp st t` is the list of client calls one tick
  issues.  Everything is stated for ALL schedules (any bit sets, parsed or not), DAG sets, ticks, clock
  readings and status answers; nothing is bounded.

  On the current tree the property holds as stated: `C09_full` is PROVED (`C09_full_proved`).  It was
  refuted on the pinned tree by three defects, all repaired in /repo; the model follows the fixed code:
    F8   a valid expression that never fires inside robfig's 5-year horizon (`0 0 31 2 *`) gets the zero
         time from `Next`, which is not after `now`: the entry used to be invoked at EVERY tick; since
         3d1ee58 `run` skips it (`invokedPinned` keeps the old test only for `C09_F8_pinned_witness`).
    F10  two start schedules of one DAG firing in the same minute used to be invoked in two goroutines
         that both pass the guard: two Start calls; since 922dee6 `run` keeps a per-tick map keyed by
         entry type + DAG and invokes only the first due entry of each key (`dedupe`; `runTickPinned`
         keeps the old loop only for `C09_F10_pinned_witness`).
    F9 / F26  `schedule: {foo: …}` and `schedule: "TZ=UTC"` used to panic in the loader and kill the daemon
         for every DAG; fixed by 2134a7a and 677265a: `buildSchedule` never answers panic.
-/
namespace BdModel.P09
open BdModel.Cron

/-- **Ticks cover every minute.** Whatever the clock answers when the loop re-arms its timer (late,
    bunched, early), the ticks run are `trunc now0, +1 min, +2 min, …`: none skipped, none repeated. -/
theorem C09_ticks_cover (now0 : Nat) (nows : List Nat) :
    (daemonTicks now0 nows).map (·.1) = (List.range nows.length).map (fun k => truncMin now0 + 60 * k) :=
  loopTicks_fst (truncMin now0) (truncMin_mod now0) nows

/-- a late clock programs a zero wait (the next tick fires at once) -/
theorem C09_late_tick_fires_at_once (t now : Nat) (rest : List Nat) (h : nextTick t ≤ now) :
    (loopTicks t (now :: rest)).head? = some (t, 0) := by
  simp [loopTicks]; omega

/-- **`Next` returns the least firing minute** after `u` inside robfig's horizon (1 January of
    `year(u+1s)+6`), and the zero time iff there is none; proved by induction on the search. -/
theorem C09_next_least (s : Spec) (u : Nat) :
    (∀ r, next s u = some r ↔
      (u < 60 * r ∧ r < horizon u ∧ fires s r = true ∧ ∀ k, u < 60 * k → k < r → fires s k = false)) ∧
    (next s u = none ↔ ∀ k, u < 60 * k → k < horizon u → fires s k = false) :=
  ⟨next_eq_some_iff s u, next_eq_none_iff s u⟩

/-- **invoke_iff.** At tick `60*m` an entry is invoked iff its schedule fires in minute `m` —
    for every schedule, no side condition. -/
theorem C09_invoke_iff (s : Spec) (m : Nat) (hm : 0 < m) :
    invoked s (60 * m) = true ↔ fires s m = true :=
  invoked_iff_fires s m hm

/-- a schedule with nothing inside the horizon (zero `Next`) is never invoked (F8 fix) -/
theorem C09_zero_next_never_invoked (s : Spec) (t : Nat) (h : next s (t - 1) = none) : invoked s t = false := by
  rw [invoked, h]

/-- the condition of the property text, for DAG `d` at minute `m` -/
def StartCond (dags : List Dag) (susp : Nat → Bool) (st : Nat → Status) (d m : Nat) : Prop :=
  (∃ x ∈ dags, x.id = d ∧ ∃ sp ∈ x.starts, fires sp m = true) ∧ susp d = false ∧
  (st d).err = false ∧ (st d).running = false ∧ ∀ l, (st d).started = some l → truncMin l < 60 * m

/-- **start_iff.** A Start call is issued for DAG `d` at minute `m` iff one of its start schedules
    fires in `m`, it is not suspended, its status is readable and not running, and its last start
    (truncated to the minute; an unparsable time counts as none) is before `m`. -/
theorem C09_start_iff (dags : List Dag) (susp : Nat → Bool) (st : Nat → Status) (d m : Nat) (hm : 0 < m) :
    Act.start d ∈ runTick dags susp st (60 * m) ↔ StartCond dags susp st d m :=
  mem_runTick_minute dags susp st m hm (.start d)

/-- **Never twice across restarts / repeated ticks.** Once the history shows a run that is still
    running, or that started in or after minute `m`, NO daemon instance (any DAG set) issues a Start
    for that DAG at tick `m` again. -/
theorem C09_no_second_start (dags : List Dag) (susp : Nat → Bool) (st : Nat → Status) (d m : Nat)
    (h : (st d).running = true ∨ ∃ l, (st d).started = some l ∧ 60 * m ≤ truncMin l) :
    Act.start d ∉ runTick dags susp st (60 * m) := by
  intro hmem
  -- the third component is `Guard .start`, which unfolds to readable ∧ not running ∧ last start before the tick
  obtain ⟨_, _, _, g2, g3⟩ := (mem_runTick_iff dags susp st (60 * m) (.start d)).mp hmem
  rcases h with hr | ⟨l, hl, hge⟩
  · exact Bool.false_ne_true (g2.symm.trans hr)
  · have := g3 l hl; omega

/-- **The start guard does not look at how the latest run ended.** Two readable statuses that are
    both not running and carry the same start time — finished, failed, canceled, or "none" — get the
    same answer from `jobImpl.Start`: running ⇒ refused; any other label ⇒ refused iff the run started in
    or after the scheduled minute (`Guard .start`, what `C09_start_iff` / `C09_no_second_start` rest on:
    it mentions `running` and `started` only). -/
theorem C09_guard_label_independent (d j : Nat) (s1 s2 : Status) (he : s1.err = s2.err)
    (hs : s1.started = s2.started) (h1 : s1.running = false) (h2 : s2.running = false) :
    jobStart d j s1 = jobStart d j s2 := by
  unfold jobStart
  simp only [he, hs, h1, h2]

/-- **Once per tick.** No client call — Start, Stop or Restart of a DAG — is issued twice in one tick,
    however many schedules of that kind fire in the minute (per-tick de-duplication of `run`). -/
theorem C09_at_most_once (dags : List Dag) (susp : Nat → Bool) (st : Nat → Status) (t : Nat) (a : Act) :
    (runTick dags susp st t).count a ≤ 1 :=
  count_runTick_le_one dags susp st t a

/-- **Exactly once.** The number of Start calls for DAG `d` at minute `m` is 1 when the condition of the
    property holds and 0 otherwise. -/
theorem C09_start_exactly_once (dags : List Dag) (susp : Nat → Bool) (st : Nat → Status) (d m : Nat) (hm : 0 < m) :
    (StartCond dags susp st d m → (runTick dags susp st (60 * m)).count (Act.start d) = 1) ∧
    (¬ StartCond dags susp st d m → (runTick dags susp st (60 * m)).count (Act.start d) = 0) := by
  constructor
  · intro hc
    have hmem := (C09_start_iff dags susp st d m hm).mpr hc
    have hpos := List.count_pos_iff.mpr hmem
    have hle := C09_at_most_once dags susp st (60 * m) (Act.start d)
    omega
  · intro hc
    exact List.count_eq_zero.mpr (fun hmem => hc ((C09_start_iff dags susp st d m hm).mp hmem))

/-- **stop_iff.** Stop is issued iff a stop schedule fires, the DAG is not suspended and it IS running. -/
theorem C09_stop_iff (dags : List Dag) (susp : Nat → Bool) (st : Nat → Status) (d m : Nat) (hm : 0 < m) :
    Act.stop d ∈ runTick dags susp st (60 * m) ↔
      (∃ x ∈ dags, x.id = d ∧ ∃ sp ∈ x.stops, fires sp m = true) ∧ susp d = false ∧
      (st d).err = false ∧ (st d).running = true :=
  mem_runTick_minute dags susp st m hm (.stop d)

/-- **restart_iff.** Restart is issued at each minute in which a restart schedule fires (unless suspended). -/
theorem C09_restart_iff (dags : List Dag) (susp : Nat → Bool) (st : Nat → Status) (d m : Nat) (hm : 0 < m) :
    Act.restart d ∈ runTick dags susp st (60 * m) ↔
      (∃ x ∈ dags, x.id = d ∧ ∃ sp ∈ x.restarts, fires sp m = true) ∧ susp d = false :=
  (mem_runTick_minute dags susp st m hm (.restart d)).trans (by simp [Act.kind, Act.dag, Guard, Dag.specs])

/-- **An unloadable file changes nothing** — at start-up (anywhere in the directory listing) and when
    the watcher sees it written. -/
theorem C09_bad_file_isolated (pre post : List (Nat × Load)) (id : Nat) (m : List Dag) :
    initDags (pre ++ (id, .err) :: post) [] = initDags (pre ++ post) [] ∧
    applyEvent m (.write id .err) = some m :=
  ⟨initDags_skip_err pre post id [], rfl⟩

/-- **Any file whose load does not panic leaves the other DAGs' calls unchanged** (added or edited
    while the daemon runs, or present at start-up). -/
theorem C09_other_dags_unaffected (m : List Dag) (id : Nat) (l : Load) (hp : l ≠ .panic) :
    ∃ m', loadFile m id l = some m' ∧ ∀ susp st t d, d ≠ id →
      (runTick m' susp st t).filter (fun a => a.dag == d) = (runTick m susp st t).filter (fun a => a.dag == d) := by
  cases l with
  | panic => exact absurd rfl hp
  | err => exact ⟨m, rfl, fun _ _ _ _ _ => rfl⟩
  | zone => exact ⟨m, rfl, fun _ _ _ _ _ => rfl⟩
  | ok a b c =>
    refine ⟨upsert m ⟨id, a, b, c⟩, rfl, fun susp st t d hd => ?_⟩
    rw [runTick_filter_dag, runTick_filter_dag, upsert_filter_other m ⟨id, a, b, c⟩ d (fun h => hd h.symm)]

/-- removing a file likewise -/
theorem C09_remove_unaffected (m : List Dag) (id : Nat) (susp : Nat → Bool) (st : Nat → Status) (t d : Nat)
    (hd : d ≠ id) :
    ∃ m', applyEvent m (.remove id) = some m' ∧
      (runTick m' susp st t).filter (fun a => a.dag == d) = (runTick m susp st t).filter (fun a => a.dag == d) := by
  refine ⟨_, rfl, ?_⟩
  rw [runTick_filter_dag, runTick_filter_dag, List.filter_filter]
  congr 1
  apply List.filter_congr
  intro x _
  by_cases h : x.id = d
  · simp [h, hd]
  · simp [h]

/-! ### the full statement and its proof; the former defects as regression witnesses -/

/-- start clause as the property text has it (for every DAG set) -/
def C09_exact_start : Prop :=
  ∀ (dags : List Dag) (susp : Nat → Bool) (st : Nat → Status) (d m : Nat), 0 < m →
    (Act.start d ∈ runTick dags susp st (60 * m) ↔ StartCond dags susp st d m)

/-- "none is run twice": at most one Start per DAG and tick when file ids are distinct -/
def C09_never_twice : Prop :=
  ∀ (dags : List Dag) (susp : Nat → Bool) (st : Nat → Status) (d t : Nat),
    (dags.map (·.id)).Nodup → (runTick dags susp st t).count (Act.start d) ≤ 1

/-- "a malformed or unloadable file never prevents the other DAGs from being scheduled" -/
def C09_isolation : Prop :=
  ∀ (files : List (Nat × SchedDef)) (extra : Nat × SchedDef),
    (initDags (files.map (fun f => (f.1, buildSchedule f.2))) []).isSome = true →
    (initDags ((files ++ [extra]).map (fun f => (f.1, buildSchedule f.2))) []).isSome = true

/-- one call per DAG, kind and minute — Start, Stop and Restart alike -/
def C09_once_per_minute : Prop :=
  ∀ (dags : List Dag) (susp : Nat → Bool) (st : Nat → Status) (t : Nat) (a : Act),
    (runTick dags susp st t).count a ≤ 1

def C09_full : Prop := C09_exact_start ∧ C09_never_twice ∧ C09_once_per_minute ∧ C09_isolation

/-- `0 0 31 2 *` -/
def feb31 : Spec := ⟨⟨1, false⟩, ⟨1, false⟩, ⟨0x80000000, false⟩, ⟨4, false⟩, ⟨0x7f, true⟩⟩
/-- `* * * * *` -/
def everyMinute : Spec := ⟨⟨2 ^ 60 - 1, true⟩, ⟨2 ^ 24 - 1, true⟩, ⟨2 ^ 32 - 2, true⟩, ⟨2 ^ 13 - 2, true⟩, ⟨127, true⟩⟩
def neverRun : Nat → Status := fun _ => ⟨false, .none, none⟩
/-- minute of 2024-01-01T00:07Z -/
def m2024 : Nat := 28401127 + unixEpochMin

example : parseStr "0 0 31 2 *" = .ok feb31 := by decide
example : parseStr "* * * * *" = .ok everyMinute := by decide

/-- **The start clause holds exactly** (since the F8 fix). -/
theorem C09_exact_start_holds : C09_exact_start := C09_start_iff

/-- the invoke test as it was before 3d1ee58: the zero time is "not after now" -/
def invokedPinned (s : Spec) (t : Nat) : Bool := !decide (nextTime s (t - 1) > t)

/-- `0 0 31 2 *` never fires: its day test asks for month 2 and day 31 -/
theorem feb31_never (m : Nat) : fires feb31 m = false := by
  have hpow : ∀ n k, Nat.testBit (2 ^ n) k = true → k = n := fun n k hk => by
    rw [Nat.testBit_two_pow] at hk; exact (of_decide_eq_true hk).symm
  refine Bool.eq_false_iff.mpr (fun hf => ?_)
  simp only [fires, dayOk, dayMatches, feb31, Bool.and_eq_true, Bool.or_true, if_true] at hf
  obtain ⟨⟨hmonth, hdom, _⟩, _⟩ := hf
  -- the month set is `4 = 2 ^ 2`, the day-of-month set `0x80000000 = 2 ^ 31` (by evaluation, when `hpow` is applied)
  have := civilOfDay_feb (m / 1440) (hpow 2 _ hmonth)
  rw [hpow 31 _ hdom] at this
  omega

/-- F8 at EVERY tick: `Next` is the zero time, the old test invoked the entry, the current one does not -/
theorem F8_every_tick (t : Nat) : invokedPinned feb31 t = true ∧ invoked feb31 t = false := by
  have hn : next feb31 (t - 1) = none := (C09_next_least feb31 (t - 1)).2.mpr (fun k _ _ => feb31_never k)
  refine ⟨?_, C09_zero_next_never_invoked _ _ hn⟩
  rw [invokedPinned, nextTime, hn]
  rfl

/-- F8, as it was: `0 0 31 2 *` never fires, the old test invoked it at 2024-01-01T00:07Z (and at every
    other tick); the current test does not, and no call is issued -/
theorem C09_F8_pinned_witness :
    invokedPinned feb31 (60 * m2024) = true ∧ fires feb31 m2024 = false ∧ invoked feb31 (60 * m2024) = false ∧
    runTick [⟨1, [feb31], [], []⟩] (fun _ => false) neverRun (60 * m2024) = [] := by
  obtain ⟨h1, h2⟩ := F8_every_tick (60 * m2024)
  refine ⟨h1, feb31_never _, h2, ?_⟩
  simp [runTick, dueEntries, readEntries, entriesOf, h2, dedupe]

/-- F10, as it was: two start schedules firing in the same minute gave two Start calls in the loop
    without de-duplication; the current loop issues exactly one -/
theorem C09_F10_pinned_witness :
    (runTickPinned [⟨1, [everyMinute, everyMinute], [], []⟩] (fun _ => false) neverRun (60 * m2024)).count (Act.start 1) = 2 ∧
    runTick [⟨1, [everyMinute, everyMinute], [], []⟩] (fun _ => false) neverRun (60 * m2024) = [Act.start 1] := by
  decide

/-- the guard of seeded mutant C09-3: the start time is consulted for success / error only -/
def jobStartMutant (dag jnext : Nat) (st : Status) : Option Act :=
  if st.err then none
  else match st.label with
    | .running => none
    | .success | .error =>
      (match st.started with
       | some l => if truncMin l ≥ jnext then none else some (.start dag)
       | none => some (.start dag))
    | _ => some (.start dag)

/-- a latest run that was CANCELED (or carries no final label) after starting in minute m blocks a second
    Start for m exactly like a finished one: the real guard refuses, the mutant's would start again -/
theorem C09_canceled_run_blocks_witness :
    jobStart 1 (60 * m2024) ⟨false, .cancel, some (60 * m2024 + 13)⟩ = none ∧
    jobStartMutant 1 (60 * m2024) ⟨false, .cancel, some (60 * m2024 + 13)⟩ = some (.start 1) ∧
    jobStart 1 (60 * m2024) ⟨false, .none, some (60 * m2024 + 13)⟩ = none ∧
    jobStartMutant 1 (60 * m2024) ⟨false, .none, some (60 * m2024 + 13)⟩ = some (.start 1) ∧
    runTick [⟨1, [everyMinute], [], []⟩] (fun _ => false) (fun _ => ⟨false, .cancel, some (60 * m2024 + 13)⟩) (60 * m2024) = [] ∧
    runTick [⟨1, [everyMinute], [], []⟩] (fun _ => false) (fun _ => ⟨false, .cancel, some (60 * m2024 - 1)⟩) (60 * m2024) = [.start 1] := by
  decide

/-- **"None is run twice" holds** (within a tick by the de-duplication; across ticks and daemon restarts
    by `C09_no_second_start`). -/
theorem C09_never_twice_holds : C09_never_twice :=
  fun dags susp st d t _ => C09_at_most_once dags susp st t (Act.start d)

theorem C09_once_per_minute_holds : C09_once_per_minute := C09_at_most_once

/-- the former F9 witness (`schedule: {foo: "* * * * *"}`) and F26 witnesses (`schedule: "TZ=UTC"`) are
    plain load errors now; robfig's parser itself still panics on the latter -/
theorem C09_F9_F26_regression :
    buildSchedule (.map [(.unknown, .str "* * * * *".toList)]) = .err ∧
    buildSchedule (.val (.str "TZ=UTC".toList)) = .err ∧
    buildSchedule (.map [(.start, .str "TZ=UTC".toList)]) = .err ∧
    parse "TZ=UTC".toList = .panic := by
  decide

/-- **Isolation holds.** Whatever a file in the DAGs directory contains, loading it cannot take the
    daemon down: `buildSchedule` answers ok or error for every decoded value, so `initDags` always
    yields a DAG map. -/
theorem C09_isolation_holds : C09_isolation := by
  intro files extra _
  apply initDags_isSome
  intro f hf
  obtain ⟨g, _, rfl⟩ := List.mem_map.mp hf
  exact buildSchedule_no_panic g.2

/-- **Any file, good or bad, leaves the other DAGs' calls unchanged** — at start-up and when the watcher
    sees it created or edited while the daemon runs. -/
theorem C09_any_file_isolated (m : List Dag) (id : Nat) (d : SchedDef) :
    ∃ m', loadFile m id (buildSchedule d) = some m' ∧ ∀ susp st t x, x ≠ id →
      (runTick m' susp st t).filter (fun a => a.dag == x) = (runTick m susp st t).filter (fun a => a.dag == x) :=
  C09_other_dags_unaffected m id (buildSchedule d) (buildSchedule_no_panic d)

/-- **C09_full holds on the current tree.** -/
theorem C09_full_proved : C09_full :=
  ⟨C09_exact_start_holds, C09_never_twice_holds, C09_once_per_minute_holds, C09_isolation_holds⟩

/-! ### non-vacuity: the hypotheses are met by concrete, non-trivial states -/

/-- `*/15 0 1,15 * 1-5` -/
def quarterly : Spec := ⟨⟨0x200040008001, false⟩, ⟨1, false⟩, ⟨0x8002, false⟩, ⟨0x1ffe, true⟩, ⟨0x3e, false⟩⟩
example : parseStr "*/15 0 1,15 * 1-5" = .ok quarterly := by decide
-- 2024-01-01 is a Monday and the 1st: fires at 00:00, 00:15; not 00:07; `Next` is not the zero time
example : fires quarterly (m2024 - 7) = true ∧ fires quarterly (m2024 + 8) = true ∧ fires quarterly m2024 = false := by decide
example : next quarterly (60 * m2024 - 1) = some (m2024 + 8) := by decide
example : runTick [⟨1, [quarterly], [everyMinute], []⟩, ⟨2, [], [], [everyMinute]⟩] (fun _ => false)
    (fun _ => ⟨false, .running, some (60 * m2024 - 500)⟩) (60 * (m2024 + 8)) = [.stop 1, .restart 2] := by decide
example : runTick [⟨1, [quarterly], [], []⟩] (fun _ => false) neverRun (60 * (m2024 + 8)) = [.start 1] := by decide
-- started in the same minute already (e.g. by the daemon instance that was just restarted): no second start
example : runTick [⟨1, [quarterly], [], []⟩] (fun _ => false) (fun _ => ⟨false, .success, some (60 * (m2024 + 8) + 13)⟩)
    (60 * (m2024 + 8)) = [] := by decide
example : (daemonTicks 1000000007 [1000000300, 1000000301, 1000000302]).map (·.1) = [999999960, 1000000020, 1000000080] := by decide

end BdModel.P09

#print axioms BdModel.P09.C09_ticks_cover
#print axioms BdModel.P09.C09_late_tick_fires_at_once
#print axioms BdModel.P09.C09_next_least
#print axioms BdModel.P09.C09_invoke_iff
#print axioms BdModel.P09.C09_zero_next_never_invoked
#print axioms BdModel.P09.C09_start_iff
#print axioms BdModel.P09.C09_no_second_start
#print axioms BdModel.P09.C09_guard_label_independent
#print axioms BdModel.P09.C09_at_most_once
#print axioms BdModel.P09.C09_start_exactly_once
#print axioms BdModel.P09.C09_stop_iff
#print axioms BdModel.P09.C09_restart_iff
#print axioms BdModel.P09.C09_bad_file_isolated
#print axioms BdModel.P09.C09_other_dags_unaffected
#print axioms BdModel.P09.C09_remove_unaffected
#print axioms BdModel.P09.C09_exact_start_holds
#print axioms BdModel.P09.C09_F8_pinned_witness
#print axioms BdModel.P09.C09_F10_pinned_witness
#print axioms BdModel.P09.C09_canceled_run_blocks_witness
#print axioms BdModel.P09.C09_never_twice_holds
#print axioms BdModel.P09.C09_once_per_minute_holds
#print axioms BdModel.P09.C09_F9_F26_regression
#print axioms BdModel.P09.C09_isolation_holds
#print axioms BdModel.P09.C09_any_file_isolated
#print axioms BdModel.P09.C09_full_proved
