import BdModel.Proofs.HistStamp
/-
  C06, FILE-NAME / TIMESTAMP layer. The record-layer theorems of Props/C06.lean ("latest = the most recently STARTED
  run", "recent n = the n most recently started, newest first") treat the start time as a number and the order of the
  files as the order of those numbers. Here: the names the store really builds (`newFile`, `Compact`), the regex it
  really uses to find the time in a name (`timestamp`), the comparator and cut of `filterLatest`, the day pattern of
  `latestToday` - and the proof that comparing the rendered strings IS comparing the start times, for every time from
  2000-01-01T00:00:00.000Z to 2999-12-31T23:59:59.999Z, every DAG path, every request id.
  Model: Hist/Stamp.lean (strings = `List Char`, order by code point = Go's bytewise order on valid UTF-8).
  Assumptions that stay: md5 collision-freeness (one directory per DAG file), byte order = code-point order of UTF-8,
  Go's `time.Format` prints the calendar date of the instant (differentially checked by the stream `lib/x_names.py`).
-/
namespace BdModel.P06Names
-- two `render`s are open: `Hist.Stamp.render` (the stamp of a `Civil`, meant wherever the argument is a `Civil`) and
-- `Hist.Names.render` (the path builder)
open BdModel.Hist.Stamp BdModel.Hist.Names

/-! ### 1. the rendered start time orders like the start time -/

/-- Go's `<` on the rendered stamps is "chronologically before", and rendering is injective: sorting by the string IS
    sorting by start time, to the millisecond (all valid civil times, no sampling). -/
theorem C06_render_order (a b : Civil) (ha : a.Valid) (hb : b.Valid) :
    (slt (render a) (render b) = true ↔ a.before b) ∧ (render a = render b ↔ a = b) :=
  ⟨by rw [render_lt a b ha hb]; simp, render_inj a b ha hb⟩

/-- "chronologically before" (lexicographic on year … millisecond) is the order of ONE number (what the record layer
    calls the start time) -/
theorem C06_render_order_key (a b : Civil) (ha : a.Valid) (hb : b.Valid) :
    (slt (render a) (render b) = true ↔ key a < key b) ∧ (key a = key b ↔ a = b) :=
  ⟨(C06_render_order a b ha hb).1.trans (before_iff_key a b ha hb),
   ⟨key_inj a b ha hb, fun h => by rw [h]⟩⟩

/-- … and of the instants themselves: for calendar-correct dates (leap years included) the string order is the order
    of the Unix millisecond counts -/
theorem C06_render_order_unix (a b : Civil) (ha : a.Real) (hb : b.Real) :
    slt (render a) (render b) = true ↔ unixMillis a < unixMillis b :=
  (C06_render_order a b ha.1 hb.1).1.trans (unix_lt_iff a b ha hb).symm

/-- every instant of the ten centuries HAS a calendar date, which `unixMillis` maps back: so for any two start
    instants m₁ m₂ (Unix ms, what `Open(dagFile, t, …)` is given), the stamps compare as the instants do -/
theorem C06_render_order_instants (m1 m2 : Nat)
    (h1 : 946684800000 ≤ m1 ∧ m1 < 32503680000000) (h2 : 946684800000 ≤ m2 ∧ m2 < 32503680000000) :
    (slt (render (ofUnixMillis m1)) (render (ofUnixMillis m2)) = true ↔ m1 < m2) ∧
    (render (ofUnixMillis m1) = render (ofUnixMillis m2) ↔ m1 = m2) := by
  obtain ⟨r1, e1⟩ := ofUnix_spec m1 h1.1 h1.2
  obtain ⟨r2, e2⟩ := ofUnix_spec m2 h2.1 h2.2
  refine ⟨by rw [C06_render_order_unix _ _ r1 r2, e1, e2], ?_⟩
  rw [render_inj _ _ r1.1 r2.1]
  constructor
  · intro h; rw [← e1, ← e2, h]
  · intro h; rw [h]

/-! ### 2. `timestamp(file)` finds the start time in the names the store builds -/

/-- `timestamp(newFile(dagFile, t, req))` (and of the compacted twin) is exactly the rendered start time, for every
    request id - PROVIDED the regex has no match inside `<prefixWithDirectory>.` -/
theorem C06_stamp_found (pre : List Char) (t : Civil) (req : List Char) (c : Bool)
    (hfree : StampFree pre) (ht : t.Valid) : timestamp (fileName pre t req c) = render t := by
  rw [fileName_shape]; exact findStamp_pre pre t _ ht hfree

/-- the statement without the proviso -/
def C06_stamp_found_full : Prop :=
  ∀ (pre : List Char) (t : Civil) (req : List Char) (c : Bool), t.Valid → timestamp (fileName pre t req c) = render t

def wPre : List Char := ['x', '2', '0', '2', '4', '0', '1', '0', '1', 'a', '0', '0', ':', '0', '0', ':', '0', '0']
def wT : Civil := ⟨2031, 5, 6, 7, 8, 9, 10⟩

/-- it is needed: a DAG called `x20240101a00:00:00` steals the match (the unescaped dot accepts the `a`; the optional
    group even swallows `.203` of the real stamp). Known observation O2 / F3 of DESIGN.md, not a new finding. -/
theorem C06_stamp_found_full_refuted : ¬ C06_stamp_found_full := by
  intro h
  have := h wPre wT ['r'] false (by decide)
  revert this; decide

example : timestamp (fileName wPre wT ['r'] false) = ['2', '0', '2', '4', '0', '1', '0', '1', 'a', '0', '0', ':', '0', '0', ':', '0', '0', '.', '2', '0', '3'] := by decide
example : ¬ StampFree wPre := by decide

/-- ordinary names satisfy the proviso: a path without a colon cannot contain a match (the regex needs two), and a
    match that STARTS in `pre.` cannot borrow the colons of the real stamp (`no_straddle`) -/
theorem C06_stampfree_no_colon (pre : List Char) (h : ':' ∉ pre) : StampFree pre := by
  unfold StampFree
  rw [findStamp_nil_iff]
  intro u v e
  refine Bool.eq_false_iff.mpr (fun hm => ?_)
  obtain ⟨c, hc, hk⟩ := matchSeq_get _ _ hm 11 (by decide)
  have hk' : Cls.ok .colon c = true := hk
  have : c = ':' := by simpa [Cls.ok] using hk'
  subst this
  have hv : ':' ∈ v := List.mem_of_getElem? hc
  have : ':' ∈ pre ++ ['.'] := by rw [e]; exact List.mem_append_right _ hv
  rcases List.mem_append.mp this with h1 | h1
  · exact h h1
  · simp at h1

/-- `StampFree` says exactly "no position of `pre.` starts the mandatory part of the regex" -/
theorem C06_stampfree_iff (pre : List Char) :
    StampFree pre ↔ ∀ u v, pre ++ ['.'] = u ++ v → matchSeq coreCls v = false := findStamp_nil_iff _

example : StampFree ['d', 'a', 't', 'a', '/', 'm', 'y', ' ', 'd', 'a', 'g', '-', '0', 'f', '3', 'a', '/', 'm', 'y', ' ', 'd', 'a', 'g'] := by decide
example : StampFree ['d', '/', '2', '0', '2', '4', '-', '0', '1', '-', '0', '1', ' ', '1', '2', ':', '0', '0', '/', 'x', '2'] := by decide      -- digits and a colon, still no match
example : timestamp (fileName ['d', 'a', 't', 'a', '/', 'm', 'y', ' ', 'd', 'a', 'g', '-', '0', 'f', '3', 'a', '/', 'm', 'y', ' ', 'd', 'a', 'g'] wT ['0', '1', '2', '3', '4', '5', '6', '7', '8', '9', 'a', 'b'] true) = render wT := by decide

/-! ### 3. `filterLatest` answers the n most recently started runs, whatever order `Glob` and `sort.Slice` work in -/

/-- the comparator is a strict total order on ALL strings (not only well-formed names): irreflexive, asymmetric,
    transitive, and any two different names are ordered -/
theorem C06_newer_strict_total :
    (∀ a, newer a a = false) ∧ (∀ a b, newer a b = true → newer b a = false) ∧
    (∀ a b c, newer a b = true → newer b c = true → newer a c = true) ∧
    (∀ a b, a ≠ b → newer a b = true ∨ newer b a = true) :=
  ⟨newer_irrefl, newer_asymm, newer_trans, newer_total⟩

/-- hence the answer is a function of the COLLECTION of names, independent of the order `filepath.Glob` returned
    them in … -/
theorem C06_filterLatest_set (l l' : List (List Char)) (n : Int) (h : l.Perm l') :
    filterLatest l n = filterLatest l' n := by
  unfold filterLatest
  rw [sortBy_of_perm newer newer_trans newer_asymm newer_total l l' h, h.length_eq]

/-- … and of the sorting algorithm: ANY rearrangement of the names in which no name is strictly before an earlier one
    (what `sort.Slice` guarantees for a strict weak order) is the list the model computes -/
theorem C06_filterLatest_unique (l out : List (List Char)) (n : Int) (hp : out.Perm l)
    (hs : out.Pairwise (fun a b => newer b a = false)) :
    out.take (cut n l.length) = filterLatest l n := by
  unfold filterLatest
  rw [sorted_unique newer newer_trans newer_asymm newer_total l out hp hs]

/-- on two files of one DAG the comparator is: later start first; equal start times: greater rest-of-name first.
    For EVERY prefix, StampFree or not: a match stolen by the prefix is either the same string for both names (the
    comparator then falls back to the whole names, in which the real stamps sit at the same offset) or differs only in
    the first three digits of the year, which order like the names (`findStamp_stolen`). So since the tie-break by name
    was added (fix F29) observation O2 / F3 no longer affects the ORDER of a DAG's files, only `timestamp` itself. -/
theorem C06_newer_names (pre : List Char) (t1 t2 : Civil) (h1 : t1.Valid) (h2 : t2.Valid)
    (r1 r2 : List Char) (c1 c2 : Bool) :
    newer (fileName pre t1 r1 c1) (fileName pre t2 r2 c2) =
      if t1 = t2 then slt (tail r2 c2) (tail r1 c1) else decide (t2.before t1) := by
  rw [fileName_shape, fileName_shape, newer_any_prefix pre t1 t2 h1 h2, name_order_chrono pre t1 t2 h1 h2]

/-- `filterLatest` on the files of one DAG (valid start times; ANY prefix): there is a rearrangement `rs` of the runs
    - newest start first; equal start times by the rest of the name, descending - whose first n names are the answer.
    I.e. the n names with the greatest start times, newest first (n < 0 or n > len: all). -/
theorem C06_filterLatest_sorted_any_prefix (pre : List Char) (runs : List Run)
    (hv : ∀ r ∈ runs, r.t.Valid) (n : Int) :
    ∃ rs : List Run, rs.Perm runs ∧
      rs.Pairwise (fun a b => key b.t < key a.t ∨ (a.t = b.t ∧ slt (tail a.req a.comp) (tail b.req b.comp) = false)) ∧
      filterLatest (runs.map (Run.name pre)) n = (rs.map (Run.name pre)).take (cut n runs.length) := by
  refine ⟨sortBy (runNewer pre) runs, sortBy_perm _ runs, ?_, filterLatest_runs pre runs n⟩
  have hs := sortRuns_sorted pre runs
  have hmem : ∀ r ∈ sortBy (runNewer pre) runs, r.t.Valid :=
    fun r hr => hv r ((sortBy_perm _ runs).subset hr)
  refine List.Pairwise.imp_of_mem ?_ hs
  intro a b ha hb h
  have va := hmem a ha
  have vb := hmem b hb
  unfold Run.name at h
  rw [C06_newer_names pre b.t a.t vb va] at h
  by_cases e : b.t = a.t
  · right; simp only [e, if_true] at h; exact ⟨e.symm, h⟩
  · left
    simp only [e, if_false, decide_eq_false_iff_not] at h
    have n1 : ¬ key a.t < key b.t := fun x => h ((before_iff_key a.t b.t va vb).mpr x)
    have n2 : key a.t ≠ key b.t := fun x => e (key_inj a.t b.t va vb x).symm
    omega

/-- the statement as asked for (StampFree prefix): a special case -/
theorem C06_filterLatest_sorted (pre : List Char) (_hfree : StampFree pre) (runs : List Run)
    (hv : ∀ r ∈ runs, r.t.Valid) (n : Int) :
    ∃ rs : List Run, rs.Perm runs ∧
      rs.Pairwise (fun a b => key b.t < key a.t ∨ (a.t = b.t ∧ slt (tail a.req a.comp) (tail b.req b.comp) = false)) ∧
      filterLatest (runs.map (Run.name pre)) n = (rs.map (Run.name pre)).take (cut n runs.length) :=
  C06_filterLatest_sorted_any_prefix pre runs hv n

/-- equal start times (to the millisecond): the compacted `_c` file precedes its original (`_` > `.`); two different
    request ids are ordered by the rest of the name descending (an arbitrary but fixed order: the property leaves the
    order of equal start times open) -/
theorem C06_twin_first (pre : List Char) (t : Civil) (ht : t.Valid) (req : List Char) :
    newer (fileName pre t req true) (fileName pre t req false) = true := by
  rw [C06_newer_names pre t t ht ht]; simp [twin_tail]

/-- comparing WHOLE names orders the files of one DAG exactly as `filterLatest`'s comparator does (the stamp sits at
    the same offset in all of them): a variant of `filterLatest` without the regex is indistinguishable on them -/
theorem C06_whole_name_order (pre : List Char) (t1 t2 : Civil) (h1 : t1.Valid) (h2 : t2.Valid)
    (r1 r2 : List Char) (c1 c2 : Bool) :
    newer (fileName pre t1 r1 c1) (fileName pre t2 r2 c2) = slt (fileName pre t2 r2 c2) (fileName pre t1 r1 c1) := by
  rw [fileName_shape, fileName_shape]; exact newer_any_prefix pre t1 t2 h1 h2 _ _

/-- the cut: `n < 0` or `n > len` means all -/
theorem C06_filterLatest_cut (l : List (List Char)) (n : Int) :
    (filterLatest l n).length = (if n < 0 ∨ (l.length : Int) < n then l.length else n.toNat) := by
  unfold filterLatest cut
  rw [List.length_take, (sortBy_perm newer l).length_eq]
  split
  · simp
  · rename_i h; have : n.toNat ≤ l.length := by omega
    omega

/-! ### 4. the day pattern of `latestToday` selects this DAG's runs of that day, and no file of another directory -/

/-- what `escapeGlob(prefix) + "." + YYYYMMDD + "*.*.dat"` selects, for EVERY path: the paths
    `prefix.YYYYMMDD<m₁>.<m₂>.dat` with separator-free m₁, m₂ -/
theorem C06_today_pattern (pre d8 name : List Char) (hd : ∀ c ∈ d8, isMeta c = false) :
    gmatch (todayPattern pre d8) name = true ↔
      ∃ m1 m2, name = pre ++ '.' :: d8 ++ m1 ++ '.' :: m2 ++ extDat ∧ sep ∉ m1 ∧ sep ∉ m2 :=
  today_iff pre d8 name hd

/-- a file of the SAME DAG is selected iff its start date is the day asked for (any prefix; the request id must not
    contain a path separator, else the file could not have been created under that name) -/
theorem C06_today_own (pre : List Char) (d t : Civil) (hd : d.Valid) (ht : t.Valid) (req : List Char) (c : Bool)
    (hr : sep ∉ req8 req) :
    gmatch (todayPattern pre (date8 d)) (fileName pre t req c) = true ↔
      (t.year = d.year ∧ t.month = d.month ∧ t.day = d.day) := by
  rw [today_iff _ _ _ (date8_plain d)]
  constructor
  · rintro ⟨m1, m2, e, _, _⟩
    rw [fileName_shape] at e
    simp only [Hist.Stamp.render, List.append_assoc] at e
    have e' := List.append_cancel_left e
    simp only [List.cons.injEq, true_and, List.cons_append] at e'
    have := (List.append_inj e' (by rw [date8_length, date8_length])).1
    exact (date8_inj t d ht hd).mp this
  · intro h
    have hdt : date8 d = date8 t := ((date8_inj t d ht hd).mpr h).symm
    -- the first `*` matches nothing, the second the clock behind its dot, the request id and `_c`
    refine ⟨[], (clock13 t).drop 1 ++ ('.' :: req8 req ++ (if c then twinSfx else [])), ?_, by simp, ?_⟩
    · rw [fileName_shape, hdt]
      conv => lhs; rw [Hist.Stamp.render, clock13_head]
      simp [tail, List.append_assoc]
    · intro hm
      rcases List.mem_append.mp hm with hm | hm
      · exact clock13_no_sep t hm
      · exact tail_no_sep req c hr (List.mem_append_left extDat hm)

/-- the statement "no other DAG's file is ever selected", on strings alone -/
def C06_today_full : Prop :=
  ∀ (pre pre' : List Char) (d t : Civil) (req : List Char) (c : Bool), pre ≠ pre' → d.Valid → t.Valid →
    sep ∉ req8 req → gmatch (todayPattern pre (date8 d)) (fileName pre' t req c) = false

def wDay : Civil := ⟨2024, 1, 1, 0, 0, 0, 0⟩

/-- refuted on strings: in ONE directory the DAG `a.20240101x` would be taken for a run of `a` on 2024-01-01 -/
theorem C06_today_full_refuted : ¬ C06_today_full := by
  intro h
  have := h ['d', '/', 'a'] ['d', '/', 'a', '.', '2', '0', '2', '4', '0', '1', '0', '1', 'x'] wDay wT ['r'] false (by decide) (by decide) (by decide) (by decide)
  revert this; decide

/-- what holds (and what the code relies on): a file under ANOTHER directory is never selected. The store gives each
    DAG file its own directory `<data>/<name>-<md5(dagFile)>` (`prefixWithDirectory`), so two different DAG files
    have different directories unless md5 collides - collision-freeness of md5 stays an assumption. -/
theorem C06_today_partial (dir p dir' p' : List Char) (d t : Civil) (req : List Char) (c : Bool)
    (hp : sep ∉ p) (hp' : sep ∉ p') (hr : sep ∉ req8 req) (hne : dir ≠ dir') :
    gmatch (todayPattern (dir ++ sep :: p) (date8 d)) (fileName (dir' ++ sep :: p') t req c) = false :=
  today_other_dir dir p dir' p' (date8 d) t req c (date8_plain d) (date8_no_sep d) hp hp' hr hne

/-- `latestToday` over a directory tree: the runs of this DAG started on day d, newest first; nothing else -/
theorem C06_today_latest (pre : List Char) (d : Civil) (hd : d.Valid) (runs : List Run) (others : List (List Char))
    (hv : ∀ r ∈ runs, r.t.Valid ∧ sep ∉ req8 r.req)
    (ho : ∀ o ∈ others, gmatch (todayPattern pre (date8 d)) o = false) :
    latestToday pre (date8 d) (runs.map (Run.name pre) ++ others) =
      filterLatest ((runs.filter (fun r => decide (r.t.year = d.year ∧ r.t.month = d.month ∧ r.t.day = d.day))).map
        (Run.name pre)) (-1) := by
  unfold latestToday
  congr 1
  rw [List.filter_append]
  have h2 : others.filter (gmatch (todayPattern pre (date8 d))) = [] := by
    rw [List.filter_eq_nil_iff]; intro o ho'; simp [ho o ho']
  rw [h2, List.append_nil, List.filter_map]
  congr 1
  apply List.filter_congr
  intro r hr
  obtain ⟨v, s⟩ := hv r hr
  simp only [Function.comp, Run.name]
  rw [Bool.eq_iff_iff, decide_eq_true_iff]
  exact C06_today_own pre d r.t hd v r.req r.comp s

/-! ### non-vacuity -/

def r1 : Run := ⟨⟨2024, 2, 29, 23, 59, 59, 999⟩, ['0', '1', '2', '3', '4', '5', '6', '7', '8', '9', 'a', 'b'], false⟩
def r2 : Run := ⟨⟨2024, 3, 1, 0, 0, 0, 0⟩, ['b', 'b'], true⟩
def r2o : Run := ⟨⟨2024, 3, 1, 0, 0, 0, 0⟩, ['b', 'b'], false⟩
def r3 : Run := ⟨⟨2024, 3, 1, 0, 0, 0, 1⟩, ['a'], false⟩
def pw : List Char := ['d', 'a', 't', 'a', '/', 'm', 'y', ' ', 'd', 'a', 'g', '-', '0', 'f', '3', 'a', '/', 'm', 'y', ' ', 'd', 'a', 'g']

example : r1.t.Real ∧ r2.t.Real ∧ r3.t.Real := by decide
example : render r1.t = ['2', '0', '2', '4', '0', '2', '2', '9', '.', '2', '3', ':', '5', '9', ':', '5', '9', '.', '9', '9', '9'] := by decide
example : fileName pw r2.t r2.req true = pw ++ ['.', '2', '0', '2', '4', '0', '3', '0', '1', '.', '0', '0', ':', '0', '0', ':', '0', '0', '.', '0', '0', '0', '.', 'b', 'b', '_', 'c', '.', 'd', 'a', 't'] := by decide
example : unixMillis r1.t + 1 = unixMillis r2.t := by decide
example : ofUnixMillis 1709251199999 = r1.t := by decide
example : filterLatest [r1.name pw, r2o.name pw, r3.name pw, r2.name pw] 3 = [r3.name pw, r2.name pw, r2o.name pw] := by
  decide
example : filterLatest [r2.name pw, r3.name pw, r2o.name pw, r1.name pw] (-1) =
    [r3.name pw, r2.name pw, r2o.name pw, r1.name pw] := by decide
example : latestToday pw (date8 r2.t) [r1.name pw, r2o.name pw, r3.name pw, ['z']] = [r3.name pw, r2o.name pw] := by
  decide
/-- under the look-alike prefix `timestamp` is wrong for every file, the order is still by start time -/
example : timestamp (r1.name wPre) = timestamp (r3.name wPre) := by decide
example : filterLatest [r1.name wPre, r2o.name wPre, r3.name wPre, r2.name wPre] (-1) =
    [r3.name wPre, r2.name wPre, r2o.name wPre, r1.name wPre] := by decide
example : latestToday ['d', '/', 'a'] (date8 wDay) [fileName ['d', '/', 'a', '.', '2', '0', '2', '4', '0', '1', '0', '1', 'x'] wT ['r'] false] ≠ [] := by decide

end BdModel.P06Names

#print axioms BdModel.P06Names.C06_render_order
#print axioms BdModel.P06Names.C06_render_order_key
#print axioms BdModel.P06Names.C06_render_order_unix
#print axioms BdModel.P06Names.C06_render_order_instants
#print axioms BdModel.P06Names.C06_stamp_found
#print axioms BdModel.P06Names.C06_stamp_found_full_refuted
#print axioms BdModel.P06Names.C06_stampfree_no_colon
#print axioms BdModel.P06Names.C06_stampfree_iff
#print axioms BdModel.P06Names.C06_newer_strict_total
#print axioms BdModel.P06Names.C06_filterLatest_set
#print axioms BdModel.P06Names.C06_filterLatest_unique
#print axioms BdModel.P06Names.C06_newer_names
#print axioms BdModel.P06Names.C06_filterLatest_sorted_any_prefix
#print axioms BdModel.P06Names.C06_filterLatest_sorted
#print axioms BdModel.P06Names.C06_twin_first
#print axioms BdModel.P06Names.C06_whole_name_order
#print axioms BdModel.P06Names.C06_filterLatest_cut
#print axioms BdModel.P06Names.C06_today_pattern
#print axioms BdModel.P06Names.C06_today_own
#print axioms BdModel.P06Names.C06_today_full_refuted
#print axioms BdModel.P06Names.C06_today_partial
#print axioms BdModel.P06Names.C06_today_latest
