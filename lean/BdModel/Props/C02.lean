import BdModel.Proofs.Sched.Order
import BdModel.Proofs.Sched.Termination
/-
  C02 — failure and skip containment: final step states follow the DAG semantics.
  Stated as local consistency of every step's label with the labels of its dependencies, in every
  reachable state of a run that was neither stopped nor timed out (so in particular in the final one).
-/
namespace BdModel.P02
open BdModel.Sched

/-- **C02 (total).** When the loop has ended without a stop, every step is in a final state. -/
theorem C02_total (c : Cfg) (hn : NoRep c) (s : State) (hr : Reach c s)
    (hc : s.canceled = false) (hl : LoopDone s) (i : Nat) (hi : i < c.n) :
    Terminal (s.nd i).status :=
  final_terminal_from c hn (start_init c) s hr.reachFrom hc hl i hi

-- `hw` and `hi` are not needed by the proof (the statement is the one DESIGN.md and MANIFEST.json cite)
set_option linter.unusedVariables false in
/-- **C02 (labels).** canceled ⇒ never executed and some dependency failed (without continueOn.failure)
    or is itself canceled; skipped ⇒ own precondition unmet (all dependencies licensed), or never
    executed and some dependency skipped (without continueOn.skipped); finished / failed / running ⇒
    every dependency is licensed. -/
theorem C02_labels (c : Cfg) (hw : WF c) (hn : NoRep c) (hf : c.tdFaults = false)
    (s : State) (hr : Reach c s) (hc : s.canceled = false) (ht : s.timedOut = false)
    (i : Nat) (hi : i < c.n) :
    ((s.nd i).status = .cancel →
        (s.nd i).execs = 0 ∧ ∃ d ∈ (c.node i).deps,
          ((s.nd d).status = .error ∧ (c.node d).contFail = false) ∨ (s.nd d).status = .cancel) ∧
    ((s.nd i).status = .skipped →
        ((s.nd i).preSkip = true ∧ (c.node i).hasPre = true ∧ ∀ d ∈ (c.node i).deps, Licensed c s d) ∨
        ((s.nd i).execs = 0 ∧
         ∃ d ∈ (c.node i).deps, (s.nd d).status = .skipped ∧ (c.node d).contSkip = false)) ∧
    (((s.nd i).status = .success ∨ (s.nd i).status = .error ∨ (s.nd i).status = .running) →
        ∀ d ∈ (c.node i).deps, Licensed c s d) :=
  label_consistent_from c hn hf (start_init c) s hr.reachFrom hc ht i rfl

/-- **C02 (containment).** In the final state of an unstopped run: a step all of whose dependencies
    let it proceed was launched (finished / failed by its own outcome) or skipped by its own
    precondition; a step with a blocking dependency was never executed and is canceled or skipped. -/
theorem C02_containment (c : Cfg) (hw : WF c) (hn : NoRep c) (hf : c.tdFaults = false)
    (s : State) (hr : Reach c s) (hc : s.canceled = false) (ht : s.timedOut = false) (hl : LoopDone s)
    (i : Nat) (hi : i < c.n) :
    ((∀ d ∈ (c.node i).deps, Licensed c s d) →
        (s.nd i).status = .success ∨ (s.nd i).status = .error ∨
        ((s.nd i).status = .skipped ∧ (s.nd i).preSkip = true)) ∧
    ((∃ d ∈ (c.node i).deps, Blocker c s d) →
        ((s.nd i).status = .cancel ∨ (s.nd i).status = .skipped) ∧ (s.nd i).execs = 0) := by
  have hT := C02_total c hn s hr hc hl i hi
  obtain ⟨h1, h2, h3⟩ := C02_labels c hw hn hf s hr hc ht i hi
  constructor
  · intro hall
    rcases hT with h | h | h | h
    · exact Or.inr (Or.inl h)
    · obtain ⟨_, d, hd, hb⟩ := h1 h
      exact absurd (hb.elim Or.inl fun g => Or.inr (Or.inl g)) (not_blocker_of_licensed (hall d hd))
    · exact Or.inl h
    · rcases h2 h with ⟨hp, _, _⟩ | ⟨_, d, hd, g⟩
      · exact Or.inr (Or.inr ⟨h, hp⟩)
      · exact absurd (Or.inr (Or.inr g)) (not_blocker_of_licensed (hall d hd))
  · rintro ⟨d, hd, hB⟩
    rcases hT with h | h | h | h
    · exact absurd hB (not_blocker_of_licensed (h3 (Or.inr (Or.inl h)) d hd))
    · exact ⟨Or.inl h, (h1 h).1⟩
    · exact absurd hB (not_blocker_of_licensed (h3 (Or.inl h) d hd))
    · refine ⟨Or.inr h, ?_⟩
      rcases h2 h with ⟨_, _, hall⟩ | ⟨he, _⟩
      · exact absurd hB (not_blocker_of_licensed (hall d hd))
      · exact he

/-! non-vacuity: chain 0 → 1 → 2 where 0 fails: 1 and 2 end canceled without executing -/
def demoCfg : Cfg := { n := 3, node := fun i => match i with | 1 => { deps := [0] } | 2 => { deps := [1] } | _ => {} }
def demoActs : List Act :=
  [.visitDecide 0, .visitLaunch 0 true, .setupDone 0 true, .check 0, .execStart 0, .execEnd 0 false, .postWrite 0,
   .deferred 0, .visitDecide 1, .visitDecide 2, .loopExit]
example : ((runActs demoCfg (init demoCfg) demoActs).map fun s =>
    ((s.nd 0).status, (s.nd 1).status, (s.nd 2).status, (s.nd 1).execs, s.canceled, s.loop)) =
    some (.error, .cancel, .cancel, 0, false, .waiting) := by decide


/-- **C02 (steps not blocked always get their turn).** While the run is unstopped and unfinished and no
    step is running, one visit of the loop launches a step whose dependencies all let it proceed, or
    labels a step that is blocked: no step is left `not started` for ever by the loop itself. -/
theorem C02_progress (c : Cfg) (hw : WF c) (hrk : Ranked c) (s : State)
    (hscan : s.loop = .scanning) (hnc : s.canceled = false) (hnf : isFinished c s = false)
    (hnr : ∀ j, j < c.n → (s.nd j).status ≠ .running) :
    ∃ i s', step c s (.visitDecide i) = some s' ∧ s' ≠ s :=
  scan_progress c hw hrk s hscan hnc hnf hnr

/-- **C02 (runs end).** Every run is finite: each transition strictly decreases the natural-number
    `measure`, leaves the state unchanged, or is a signal delivery (which never increases it); while
    `Schedule` has not returned a decreasing transition is enabled. So a step that is not downstream
    of a blocking step is not merely never left waiting by the loop (`C02_progress`): after at most
    `measure` productive transitions the run has ended, and then `C02_total` / `C02_labels` apply.
    (Environment assumption of the model: a running command ends.) -/
theorem C02_run_ends (c : Cfg) (hw : WF c) (hrk : Ranked c) (hn : NoRep c) (s : State) (hr : Reach c s) :
    (∀ a s', step c s a = some s' →
        measure c s' < measure c s ∨ s' = s ∨
          ((∃ i sig ovr, a = .signalNode i sig ovr) ∧ measure c s' ≤ measure c s)) ∧
    (s.loop ≠ .returned → ∃ a s', step c s a = some s' ∧ measure c s' < measure c s) ∧
    (∃ as s', runActs c s as = some s' ∧ s'.loop = .returned ∧ as.length ≤ measure c s) := by
  have h0 := start_init c
  have hr' := hr.reachFrom
  exact ⟨fun a s' hs => step_measure c hn h0 s hr' a s' hs,
         fun hnr => productive_enabled c hw hrk hn h0 s hr' hnr,
         can_return c hw hrk hn h0 _ s hr' rfl⟩

end BdModel.P02

#print axioms BdModel.P02.C02_total
#print axioms BdModel.P02.C02_labels
#print axioms BdModel.P02.C02_containment
#print axioms BdModel.P02.C02_progress
#print axioms BdModel.P02.C02_run_ends
