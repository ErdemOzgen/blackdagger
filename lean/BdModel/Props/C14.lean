import BdModel.Proofs.Kahn
/-
  C14 — only well-formed dependency graphs are admitted to execution.
-/
namespace BdModel.P14
open BdModel.Cycle

/-- **C14 (graph part).** A step list with distinct names is accepted by `ExecutionGraph.setup`
    iff every `depends` entry names an existing step and the dependency relation has no cycle
    (self-dependency included). No bound on the number of steps or edges. -/
theorem C14 {α} [DecidableEq α] (steps : List (Step α))
    (hd : (steps.map (·.name)).Nodup) :
    accept steps = true ↔
      (∀ s ∈ steps, ∀ d ∈ s.depends, ∃ t ∈ steps, t.name = d) ∧
      ¬ ∃ i, Relation.TransGen (DependsOn steps) i i := by
  have hres : (∀ s ∈ steps, ∀ d ∈ s.depends, ∃ t ∈ steps, t.name = d) ↔ edgesOf steps ≠ none := by
    rw [Ne, edgesOf_none]
    push Not
    rfl
  rw [hres]
  unfold accept setupGraph
  cases he : edgesOf steps with
  | none => simp
  | some es =>
    -- with distinct names the resolved edge list is the dependency relation; then `hasCycle_iff`
    have hrel : Rel es = DependsOn steps := by
      funext j i
      exact propext (mem_edgesOf steps hd es he j i)
    have hE : ∀ e ∈ es, e.1 < steps.length ∧ e.2 < steps.length := by
      rintro ⟨j, i⟩ hji
      obtain ⟨s, t, hs, ht, _⟩ := (mem_edgesOf steps hd es he j i).1 hji
      exact ⟨(List.getElem?_eq_some_iff.1 ht).1, (List.getElem?_eq_some_iff.1 hs).1⟩
    have hc := hasCycle_iff steps.length es hE
    rw [hrel] at hc
    rw [← hc]
    cases hh : hasCycle steps.length es <;> simp [hh]

/-- the refusal is classified: a dangling name is reported as such -/
theorem C14_notFound {α} [DecidableEq α] (steps : List (Step α)) :
    setupGraph steps = .notFound ↔ ∃ s ∈ steps, ∃ d ∈ s.depends, ∀ t ∈ steps, t.name ≠ d := by
  rw [← edgesOf_none]
  unfold setupGraph
  cases he : edgesOf steps with
  | none => simp
  | some es =>
    simp only [reduceCtorEq, iff_false]
    split <;> simp

/-- the fuel of the model's loop never runs out (the Go loop terminates with an empty queue) -/
theorem C14_fuel (n : Nat) (es : List (Nat × Nat)) (h : ∀ e ∈ es, e.1 < n ∧ e.2 < n) :
    queueDrained n es = true := by
  obtain ⟨P, _, hq⟩ := kahn_final h
  simp [queueDrained, hq]

/-! non-vacuity: a concrete accepted diamond, a refused self-loop, a refused 3-cycle behind a source,
    a refused dangling name -/
example : accept [⟨0, []⟩, ⟨1, [0]⟩, ⟨2, [0]⟩, ⟨3, [1, 2]⟩] = true := by decide
example : accept [⟨0, [0]⟩] = false := by decide
example : accept [⟨0, []⟩, ⟨1, [0, 3]⟩, ⟨2, [1]⟩, ⟨3, [2]⟩] = false := by decide
example : setupGraph [⟨0, [7]⟩] = .notFound := by decide

end BdModel.P14

#print axioms BdModel.P14.C14
#print axioms BdModel.P14.C14_notFound
#print axioms BdModel.P14.C14_fuel
