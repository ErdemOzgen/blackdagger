import BdModel.Proofs.Sched.Outcome
import BdModel.Sched.Tables
/-
  C04 — run outcome and lifecycle handlers match what happened.
-/
namespace BdModel.P04
open BdModel.Sched

-- `hw`, `hrk`, `hdc` are not needed by the proof (the statement is the one DESIGN.md and MANIFEST.json cite)
set_option linter.unusedVariables false in
/-- **C04 (outcome, unstopped run).** The status read after all steps have finished is
    succeeded iff every step finished successfully or was skipped, and failed iff some step failed
    (its command, its set-up or its teardown); nothing else is possible. -/
theorem C04_outcome (c : Cfg) (hw : WF c) (hn : NoRep c) (hrk : Ranked c) (hdc : c.doneChan = true)
    (s : State) (hr : Reach c s) (hc : s.canceled = false) (ht : s.timedOut = false) (o : SStatus)
    (ho : s.atWait = some o) :
    (o = .success ∨ o = .error) ∧
    (o = .success ↔ ∀ i, i < c.n → (s.nd i).status = .success ∨ (s.nd i).status = .skipped) ∧
    (o = .error ↔ ∃ i, i < c.n ∧ (s.nd i).status = .error) :=
  outcome_unstopped_from c hn (start_init c) s hr.reachFrom hc ht o ho

/-- **C04 (canceled).** The run is reported canceled iff a stop was accepted and not every step
    finished successfully / was skipped — in every state, by the status cascade of `Scheduler.Status`. -/
theorem C04_canceled (c : Cfg) (s : State) :
    overall c s = .cancel ↔ (s.canceled = true ∧ allSucc c s = false) := by
  unfold overall
  cases s.canceled <;> cases allSucc c s <;> cases anyRunning c s <;> cases s.lastErr <;> simp

/-- **C04 (handlers).** The handlers run are always a prefix of the plan computed after `wg.Wait()`,
    the plan is `[handler of the outcome read at that moment] ++ [onExit]` restricted to the configured
    ones, and when `Schedule` returns exactly the plan has run, each handler once, onExit last. -/
theorem C04_handlers (c : Cfg) (s : State) (hr : Reach c s) :
    (s.hplan = none → s.hlog = [] ∧ s.atWait = none ∧ ¬ (∃ l, s.loop = .handlers l) ∧ s.loop ≠ .returned) ∧
    (∀ p, s.hplan = some p →
        (∃ o, s.atWait = some o ∧ p = handlerPlan c o) ∧
        ((∃ rest, s.loop = .handlers rest ∧ s.hlog ++ rest = p) ∨ (s.loop = .returned ∧ s.hlog = p))) :=
  hlog_plan_from c (start_init c) s hr.reachFrom

/-- shape of the plan: at most one outcome handler — the one `handlerOf` selects, if configured —
    followed by onExit (if configured) as the last element; onExit occurs nowhere else -/
theorem C04_plan_shape (c : Cfg) (o : SStatus) :
    ∃ pre, handlerPlan c o = pre ++ (if c.hExit then [Handler.onExit] else []) ∧ pre.length ≤ 1 ∧
      Handler.onExit ∉ pre ∧ ∀ h ∈ pre, handlerOf o = some h ∧ configured c h = true := by
  refine ⟨(handlerOf o).toList.filter (configured c), ?_, ?_, ?_, ?_⟩
  · unfold handlerPlan
    cases h4 : c.hExit <;> simp [List.filter_append, configured, h4]
  · exact Nat.le_trans (List.length_filter_le _ _) (by cases o <;> simp [handlerOf])
  · cases o <;> simp [handlerOf]
  · intro h hh
    cases o <;> simp [handlerOf] at hh ⊢ <;> (obtain ⟨rfl, h2⟩ := hh; simp [h2])

-- `hn` is not needed by the proof (the statement is the one DESIGN.md and MANIFEST.json cite)
set_option linter.unusedVariables false in
/-- **C04 (handlers after steps).** Once the handlers have begun no step command starts and no
    worker exists. -/
theorem C04_after_steps (c : Cfg) (hn : NoRep c) (s : State) (hr : Reach c s)
    (hl : (∃ l, s.loop = .handlers l) ∨ s.loop = .returned) :
    totalExecs c s = s.execsAtWait ∧ ∀ i, i < c.n → (s.nd i).pc.active = false :=
  no_exec_after_wait_from c (start_init c) s hr.reachFrom hl

/-- the outcome → handler map and the status cascade are the ones extracted from scheduler.go -/
theorem C04_tables_are_source (c : Cfg) (s : State) (o : SStatus) :
    handlerOfTable Canon.Sched.handlerSwitch o = some (handlerOf o) ∧
    overallOf c s Canon.Sched.statusCascade = some (reported c s) :=
  ⟨handlerOfTable_canon o, overallOf_canon c s⟩


/-- **C04 (what is reported matches the handler that ran).** `Scheduler.Status` returns the live cascade
    until all steps have finished and, from then on, the outcome read at that moment (fix 6076232): so
    when `Schedule` returns, the reported outcome `o` is exactly the one whose handler plan ran — and a
    stop request arriving while the handlers run changes neither (finding F44: on the pinned tree a
    failed run whose onFailure handler had run could end up reported canceled). -/
theorem C04_reported (c : Cfg) (s : State) (hr : Reach c s) :
    (s.atWait = none → reported c s = overall c s) ∧
    (s.loop = .returned → ∃ o, s.atWait = some o ∧ reported c s = o ∧ s.hlog = handlerPlan c o) ∧
    (∀ s', step c s .setCanceled = some s' → s.atWait ≠ none → reported c s' = reported c s) := by
  refine ⟨fun h => by simp [reported, h], ?_, ?_⟩
  · intro hl
    have hh := hlog_plan_from c (start_init c) s hr.reachFrom
    cases hp : s.hplan with
    | none => exact absurd hl (hh.1 hp).2.2.2
    | some p =>
      obtain ⟨⟨o, ho, hpo⟩, hrest⟩ := hh.2 p hp
      refine ⟨o, ho, by simp [reported, ho], ?_⟩
      rcases hrest with ⟨rest, hl2, _⟩ | ⟨_, hlog⟩
      · rw [hl] at hl2; cases hl2
      · rw [hlog, hpo]
  · intro s' hs hne
    simp only [step, Option.some.injEq] at hs
    subst hs
    cases ha : s.atWait with
    | none => exact absurd ha hne
    | some o => simp [reported, ha]

/-! non-vacuity: one failing step, onFailure and onExit configured, onSuccess too: plan = [onFailure, onExit] -/
def demo : Cfg := { n := 1, node := fun _ => {}, hSuccess := true, hFailure := true, hExit := true }
example : ((runActs demo (init demo)
    [.visitDecide 0, .visitLaunch 0 true, .setupDone 0 true, .check 0, .execStart 0, .execEnd 0 false, .postWrite 0,
     .deferred 0, .loopExit, .waitAll, .handlerRun true, .handlerRun true, .finish]).map fun s =>
    (s.hlog, s.atWait, s.loop)) = some ([.onFailure, .onExit], some .error, .returned) := by decide

end BdModel.P04

#print axioms BdModel.P04.C04_outcome
#print axioms BdModel.P04.C04_canceled
#print axioms BdModel.P04.C04_handlers
#print axioms BdModel.P04.C04_plan_shape
#print axioms BdModel.P04.C04_after_steps
#print axioms BdModel.P04.C04_tables_are_source
#print axioms BdModel.P04.C04_reported
