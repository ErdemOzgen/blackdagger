import BdModel.Cron.Parse
/-
  Cron.Daemon — the scheduler daemon's logic as internal/scheduler/{scheduler.go,entryreader.go,job.go}
  and internal/dag/{builder.go: buildSchedule, parser.go: parseSchedules/parseScheduleMap/parseCron} implement
  it NOW (after the fixes F8 = 3d1ee58, F9 = 2134a7a, F26 = 677265a, F10 = 922dee6 — see Props/C09.lean).

  Instants are seconds since Go's zero time (Civil.lean), so robfig's "zero time" answer is `0`.
-/
namespace BdModel.Cron

/-! ## `SpecSchedule.Next` -/

/-- search for the least firing minute in `[m, lim)`.  A step either answers, moves to the next
    minute, or — when the month/day test fails — jumps to the first minute of the next day (robfig
    likewise advances field-wise).  `fuel` bounds the number of steps; `lim - m` always suffices. -/
def search (s : Spec) (lim : Nat) : Nat → Nat → Option Nat
  | 0, _ => none
  | fuel + 1, m =>
    if lim ≤ m then none
    else if fires s m then some m
    else if dayOk s (m / 1440) then search s lim fuel (m + 1)
    else search s lim fuel ((m / 1440 + 1) * 1440)

/-- first minute robfig will NOT look at: `yearLimit := t.Year() + 5` for `t = u + 1s`, and the zero
    time is returned at the first wrap into a year `> yearLimit` -/
def horizon (u : Nat) : Nat := minuteOfYearStart (yearOfSec (u + 1) + 6)

/-- `Parsed.Next(u)` for a 5-field spec (Second = {0}): the least firing minute `m` with
    `60*m > u` and inside the horizon; `none` = robfig's zero time -/
def next (s : Spec) (u : Nat) : Option Nat :=
  search s (horizon u) (horizon u - (u / 60 + 1)) (u / 60 + 1)

/-- the `time.Time` that `Next` returns: zero time (`0`) when nothing was found -/
def nextTime (s : Spec) (u : Nat) : Nat :=
  match next s u with
  | none => 0
  | some m => 60 * m

/-! ## `Scheduler.start` / `nextTick` / `run` -/

def nextTick (t : Nat) : Nat := truncMin (t + 60)

/-- the loop of `start()`: `run(t); t = nextTick(t); timer.Reset(t.Sub(now()))`.  Input: the clock
    reading at each `Reset`; output per iteration: the tick that was run and the wait that was
    programmed (a non-positive duration fires at once — late and bunched ticks) -/
def loopTicks (t : Nat) : List Nat → List (Nat × Nat)
  | [] => []
  | now :: rest => (t, nextTick t - now) :: loopTicks (nextTick t) rest

/-- `t := now().Truncate(time.Minute)` then the loop -/
def daemonTicks (now0 : Nat) (nows : List Nat) : List (Nat × Nat) := loopTicks (truncMin now0) nows

inductive Kind | start | stop | restart
deriving DecidableEq, Repr

structure Dag where
  id : Nat
  starts : List Spec
  stops : List Spec
  restarts : List Spec
deriving DecidableEq, Repr

structure Entry where
  dag : Nat
  kind : Kind
  spec : Spec
deriving DecidableEq, Repr

/-- `Status.Status` of the latest run as the store returns it (dag/scheduler: StatusNone, StatusRunning,
    StatusError, StatusCancel, StatusSuccess) -/
inductive RunLabel | none | running | error | cancel | success
deriving DecidableEq, Repr

/-- what `Client.GetLatestStatus` answers for a DAG -/
structure Status where
  err : Bool               -- the call returned an error
  label : RunLabel         -- the latest run's status
  started : Option Nat     -- `util.ParseTime(StartedAt)`: none = error (never run: ""), some 0 = "-"
deriving DecidableEq, Repr

/-- `latestStatus.Status == StatusRunning` — the ONLY thing `jobImpl.Start` / `Stop` ask of the label:
    finished, failed, canceled and not-started runs are treated alike -/
def Status.running (s : Status) : Bool := s.label == .running

def entriesOf (d : Dag) : List Entry :=
  d.starts.map (⟨d.id, .start, ·⟩) ++ d.stops.map (⟨d.id, .stop, ·⟩) ++ d.restarts.map (⟨d.id, .restart, ·⟩)

/-- `entryReaderImpl.Read`: suspended DAGs contribute nothing.  Suspension is looked up by the FILE id
    (`d.id` = base name of the DAG file without extension, the key every writer of suspend flags uses),
    never by the `name:` a definition may carry — the model has no other notion of a DAG's identity. -/
def readEntries (dags : List Dag) (susp : Nat → Bool) : List Entry :=
  (dags.filter (fun d => !susp d.id)).flatMap entriesOf

/-- `run(now)`: entries are computed with `Next(now - 1s)` and sorted by `Next`; an entry whose `Next` is
    the zero time (nothing fires inside robfig's horizon) is skipped (`continue`, /repo 3d1ee58 — the F8
    fix; before it the zero time, not being after `now`, got the entry invoked at every tick); the loop
    breaks at the first entry whose `Next` is `After(now)` — i.e. exactly those with a real `Next` that is
    NOT after `now` are invoked. -/
def invoked (s : Spec) (t : Nat) : Bool :=
  match next s (t - 1) with
  | none => false
  | some m => !decide (60 * m > t)

inductive Act
  | start (dag : Nat)
  | stop (dag : Nat)
  | restart (dag : Nat)
deriving DecidableEq, Repr

def Act.dag : Act → Nat
  | .start d => d | .stop d => d | .restart d => d

/-- `jobImpl.Start`: refuse when the status cannot be read, when running, or — for EVERY other status
    label (success, error, cancel, none) — when the last start (truncated to the minute) is in or after
    `j.Next`; an unparsable `StartedAt` skips that guard -/
def jobStart (dag : Nat) (jnext : Nat) (st : Status) : Option Act :=
  if st.err then none
  else if st.running then none
  else match st.started with
    | some l => if truncMin l ≥ jnext then none else some (.start dag)
    | none => some (.start dag)

/-- `jobImpl.Stop`: only when running -/
def jobStop (dag : Nat) (st : Status) : Option Act :=
  if st.err then none else if st.running then some (.stop dag) else none

/-- `jobImpl.Restart`: unconditional -/
def jobRestart (dag : Nat) : Option Act := some (.restart dag)

/-- `entry.Invoke` -/
def invoke (e : Entry) (jnext : Nat) (st : Status) : Option Act :=
  match e.kind with
  | .start => jobStart e.dag jnext st
  | .stop => jobStop e.dag st
  | .restart => jobRestart e.dag

/-- client calls issued by one invoked-or-not entry at tick `t` -/
def entryAct (status : Nat → Status) (t : Nat) (e : Entry) : Option Act :=
  if invoked e.spec t then invoke e (nextTime e.spec (t - 1)) (status e.dag) else none

/-- One tick as it was before /repo 922dee6: EVERY due entry is invoked, so two start schedules of one
    DAG firing in the same minute gave two Start calls (F10).  Kept only to state that regression. -/
def runTickPinned (dags : List Dag) (susp : Nat → Bool) (status : Nat → Status) (t : Nat) : List Act :=
  (readEntries dags susp).filterMap (entryAct status t)

/-- key of the per-tick `invoked` map of `run`: entry type + DAG location (one location per file id) -/
def Entry.key (e : Entry) : Kind × Nat := (e.kind, e.dag)

/-- the loop of `run` over the due entries with its `invoked` map (`seen` = keys already set): the first
    due entry of each (kind, DAG) is invoked, later ones are skipped (`continue`) -/
def dedupe : List Entry → List (Kind × Nat) → List Entry
  | [], _ => []
  | e :: es, seen =>
    if e.key ∈ seen then dedupe es seen
    else e :: dedupe es (e.key :: seen)

/-- the entries that pass `IsZero → continue` and `After(now) → break`, in the order `run` meets them.
    `run` first stable-sorts by `Next`; every due entry has `Next` = the tick itself
    (Proofs/Cron: `invoked_nextTime_eq`), so among them the sort keeps `Read`'s order. -/
def dueEntries (dags : List Dag) (susp : Nat → Bool) (t : Nat) : List Entry :=
  (readEntries dags susp).filter (fun e => invoked e.spec t)

/-- One tick (`run`, after 922dee6).  Every invoked entry runs in its own goroutine and reads the status
    by itself; the model gives all of them the status as it is when the tick begins. -/
def runTick (dags : List Dag) (susp : Nat → Bool) (status : Nat → Status) (t : Nat) : List Act :=
  (dedupe (dueEntries dags susp t) []).filterMap (entryAct status t)

/-! ## loading: `buildSchedule`, `parseScheduleMap`, `parseSchedules`; `initDags`, watcher events -/

/-- outcome of `dag.LoadMetadata` on one file, as far as the daemon is concerned -/
inductive Load
  | ok (starts stops restarts : List Spec)
  | err          -- error returned: logged, file skipped (init) / previous definition kept (watcher)
  | panic        -- run-time panic; nothing between the loader and `main` recovers (no longer produced by
                 -- `buildSchedule` since the F9 / F26 fixes — `buildSchedule_no_panic` — but still what the
                 -- daemon would do with one)
  | zone         -- uses a named time zone: outside the model
deriving DecidableEq, Repr

/-- a YAML value in schedule position: string, list (items: string or not), or anything else -/
inductive SVal
  | str (s : List Char)
  | list (items : List (Option (List Char)))
  | other
deriving DecidableEq, Repr

inductive SKey | start | stop | restart | unknown | nonString
deriving DecidableEq, Repr

/-- the decoded `schedule:` field -/
inductive SchedDef
  | absent
  | val (v : SVal)                       -- string or list; `other` = invalid type
  | map (kvs : List (SKey × SVal))       -- in Go's (random) iteration order
  | unreadable                           -- the file does not decode at all (bad YAML, …)
deriving DecidableEq, Repr

/-- `parseCron` (internal/dag/parser.go, added by the F26 fix): robfig's panic on a `TZ=` prefix without a
    following space is recovered and reported as an error -/
def parseCron (v : List Char) : ParseResult :=
  match parse v with
  | .panic => .err
  | r => r

/-- `parseSchedules`: values are parsed in order, the first error wins -/
def parseList : List (List Char) → Sum (List Spec) Load
  | [] => .inl []
  | v :: vs =>
    match parseCron v with
    | .ok sp =>
      (match parseList vs with
       | .inl r => .inl (sp :: r)
       | .inr bad => .inr bad)
    | .err => .inr .err
    | .panic => .inr .panic       -- unreachable: `parseCron` never answers panic (Proofs/Cron: parseCron_ne_panic)
    | .zone => .inr .zone

/-- strings of a map value; `none` = a non-string list item (error) -/
def valStrings : SVal → Option (List (List Char))
  | .str s => some [s]
  | .list items => if items.all Option.isSome then some (items.filterMap id) else none
  | .other => some []

/-- `parseScheduleMap`, entry by entry (Go's map order): key must be a string, list items must be
    strings, the key must be start / stop / restart (anything else is an error since the F9 fix), every
    value must parse -/
def scheduleMap : List (SKey × SVal) → (List (List Char) × List (List Char) × List (List Char)) →
    Sum (List (List Char) × List (List Char) × List (List Char)) Load
  | [], acc => .inl acc
  | (k, v) :: rest, (a, b, c) =>
    if k == .nonString then .inr .err
    else match valStrings v with
      | none => .inr .err
      | some vals =>
        match k with
        | .start => (match parseList vals with
                     | .inr bad => .inr bad
                     | .inl _ => scheduleMap rest (a ++ vals, b, c))
        | .stop => (match parseList vals with
                    | .inr bad => .inr bad
                    | .inl _ => scheduleMap rest (a, b ++ vals, c))
        | .restart => (match parseList vals with
                       | .inr bad => .inr bad
                       | .inl _ => scheduleMap rest (a, b, c ++ vals))
        | _ => .inr .err              -- errInvalidScheduleKey

def parseThree (a b c : List (List Char)) : Load :=
  match parseList a with
  | .inr bad => bad
  | .inl sa =>
    match parseList b with
    | .inr bad => bad
    | .inl sb =>
      match parseList c with
      | .inr bad => bad
      | .inl sc => .ok sa sb sc

/-- `buildSchedule` (as reached from `LoadMetadata`) -/
def buildSchedule : SchedDef → Load
  | .absent => .ok [] [] []
  | .unreadable => .err
  | .val (.str s) => parseThree [s] [] []
  | .val (.list items) => if items.all Option.isSome then parseThree (items.filterMap id) [] [] else .err
  | .val .other => .err
  | .map kvs =>
    match scheduleMap kvs ([], [], []) with
    | .inr bad => bad
    | .inl (a, b, c) => parseThree a b c

/-- the reader's `dags` map (file → definition) as an association list -/
def upsert (m : List Dag) (d : Dag) : List Dag :=
  if m.any (fun x => x.id == d.id) then m.map (fun x => if x.id == d.id then d else x) else m ++ [d]

/-- one `LoadMetadata` + map update (`initDags` body, watcher Create/Write); `none` = process dead -/
def loadFile (m : List Dag) (id : Nat) : Load → Option (List Dag)
  | .ok a b c => some (upsert m ⟨id, a, b, c⟩)
  | .err => some m
  | .panic => none
  | .zone => some m

/-- `initDags` over the directory listing -/
def initDags : List (Nat × Load) → List Dag → Option (List Dag)
  | [], m => some m
  | (id, l) :: rest, m =>
    match loadFile m id l with
    | none => none
    | some m' => initDags rest m'

inductive Event
  | write (id : Nat) (l : Load)      -- fsnotify Create / Write
  | remove (id : Nat)                -- fsnotify Remove / Rename
deriving DecidableEq, Repr

/-- `watchDags` body for one event -/
def applyEvent (m : List Dag) : Event → Option (List Dag)
  | .write id l => loadFile m id l
  | .remove id => some (m.filter (fun d => d.id != id))

end BdModel.Cron
