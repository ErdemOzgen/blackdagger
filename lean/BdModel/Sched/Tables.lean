import BdModel.Sched.Model
import BdModel.Canon.Sched
/-
  Interpreters that turn the decision tables extracted from the Go source into the model's
  decision functions, and the proofs that — for the canonical tables — they ARE the model's functions.
  Together with `Extracted.Sched.x = Canon.Sched.x` (checked by `rfl` on every run) this ties
  `readyEffect`, `overall`, `handlerOf` to scheduler.go.
-/
namespace BdModel.Sched

def statusName : NStatus → String
  | .none => "None" | .running => "Running" | .error => "Error"
  | .cancel => "Cancel" | .success => "Success" | .skipped => "Skipped"

def statusOfName (s : String) : Option NStatus :=
  if s == "None" then some .none else if s == "Running" then some .running
  else if s == "Error" then some .error else if s == "Cancel" then some .cancel
  else if s == "Success" then some .success else if s == "Skipped" then some .skipped else none

/-- effect described by the columns (effect, label) of a row -/
def rowEffect (eff lab : String) : Option ReadyEffect :=
  if eff == "go" then some .go
  else if eff == "wait" then some .wait
  else if eff == "block" then (statusOfName lab).map .block
  else none

/-- interpretation of the extracted `isReady` switch: first row whose label is the status name
    (else the `default` row); a guarded row applies its effect only if the guard flag is off -/
def readyEffectOf (tbl : List (List String)) (st : NStatus) (cf cs : Bool) : Option ReadyEffect :=
  let row? := (tbl.find? (fun r => r.head? == some (statusName st))).orElse
              (fun _ => tbl.find? (fun r => r.head? == some "default"))
  match row? with
  | some [_, guard, eff, lab] =>
    if guard == "" then rowEffect eff lab
    else if guard == "Failure" then (if cf then some .go else rowEffect eff lab)
    else if guard == "Skipped" then (if cs then some .go else rowEffect eff lab)
    else none
  | _ => none

theorem readyEffectOf_canon (st : NStatus) (cf cs : Bool) :
    readyEffectOf Canon.Sched.isReadyTable st cf cs = some (readyEffect st cf cs) := by
  cases st <;> cases cf <;> cases cs <;> decide

/-- semantic reading of the condition strings of `Scheduler.Status` -/
def cascadeCond (c : Cfg) (s : State) (cond : String) : Option Bool :=
  if cond == "sc.isCanceled() && !sc.isSucceed(g)" then some (s.canceled && !allSucc c s)
  else if cond == "!g.IsStarted()" then some false     -- the graph is started in every model state
  else if cond == "g.IsRunning()" then some (anyRunning c s)
  else if cond == "sc.isError()" then some s.lastErr
  else if cond == "" then some true
  else none

def sstatusOfName (s : String) : Option SStatus :=
  if s == "StatusNone" then some .none else if s == "StatusRunning" then some .running
  else if s == "StatusError" then some .error else if s == "StatusCancel" then some .cancel
  else if s == "StatusSuccess" then some .success else none

/-- the first statement of `Status` since fix 6076232: the recorded outcome wins -/
def outcomeRow : String := "if outcome, ok := sc.getOutcome(); ok { return outcome }"

/-- the cascade proper (rows after the outcome row) -/
def cascadeOf (c : Cfg) (s : State) : List (List String) → Option SStatus
  | [] => none
  | [cond, res] :: rest =>
    match cascadeCond c s cond with
    | some true => sstatusOfName res
    | some false => cascadeOf c s rest
    | none => none
  | _ :: _ => none

/-- interpretation of the extracted `Status` table: an outcome row first, then the cascade -/
def overallOf (c : Cfg) (s : State) : List (List String) → Option SStatus
  | [cond, res] :: rest =>
    if cond == "?" && res == outcomeRow then
      (match s.atWait with
       | some o => some o
       | none => cascadeOf c s rest)
    else none
  | _ => none

theorem cascadeOf_canon (c : Cfg) (s : State) :
    cascadeOf c s (Canon.Sched.statusCascade.drop 1) = some (overall c s) := by
  simp only [Canon.Sched.statusCascade, List.drop, cascadeOf, cascadeCond, overall]
  cases hc : (s.canceled && !allSucc c s) <;> cases hr : anyRunning c s <;> cases he : s.lastErr <;>
    simp_all [sstatusOfName] <;> decide

theorem canon_head : Canon.Sched.statusCascade.head? = some ["?", outcomeRow] := by decide

theorem overallOf_canon (c : Cfg) (s : State) :
    overallOf c s Canon.Sched.statusCascade = some (reported c s) := by
  have hsplit : Canon.Sched.statusCascade = ["?", outcomeRow] :: Canon.Sched.statusCascade.drop 1 := by decide
  rw [hsplit]
  have hq : (("?" : String) == "?" && outcomeRow == outcomeRow) = true := by decide
  simp only [overallOf, hq, if_true, reported]
  cases ha : s.atWait with
  | some o => rfl
  | none => exact cascadeOf_canon c s

def handlerOfName (s : String) : Option (Option Handler) :=
  if s == "" then some none
  else if s == "handlers = append(handlers, dag.HandlerOnSuccess)" then some (some .onSuccess)
  else if s == "handlers = append(handlers, dag.HandlerOnFailure)" then some (some .onFailure)
  else if s == "handlers = append(handlers, dag.HandlerOnCancel)" then some (some .onCancel)
  else none

def sstatusName : SStatus → String
  | .none => "StatusNone" | .running => "StatusRunning" | .error => "StatusError"
  | .cancel => "StatusCancel" | .success => "StatusSuccess"

def handlerOfTable (tbl : List (List String)) (o : SStatus) : Option (Option Handler) :=
  match tbl.find? (fun r => r.head? == some (sstatusName o)) with
  | some [_, act] => handlerOfName act
  | _ => none

theorem handlerOfTable_canon (o : SStatus) :
    handlerOfTable Canon.Sched.handlerSwitch o = some (handlerOf o) := by
  cases o <;> decide

end BdModel.Sched
