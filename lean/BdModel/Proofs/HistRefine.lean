import BdModel.Proofs.Hist
/-
  C06, operation level: the record-layer store REFINES the run-log specification of the property
  (the reference `Spec` of lib/hist.py: a log of runs {start time, request id, last status, age}),
  under what the callers guarantee (`Admissible`). Property theorems: Props/C06.lean.
-/
namespace BdModel.Hist

/-- one run as the property speaks of it (`run` in `Spec.apply` of lib/hist.py) -/
structure SRun where
  dag    : Nat
  t      : Nat                   -- start time (ms)
  req8   : Nat                   -- the part of the request id that goes into the file name
  req    : Nat                   -- full request id
  last   : Option Nat := none    -- payload of the last recorded status; none = nothing recorded yet
  age    : Nat := 0              -- days since the run's record was last modified
  holder : Option Nat := none    -- recording process that still has the run open (`Spec.open[k]`)
  comp   : Bool := false         -- bookkeeping only: the recorder was closed after a status was written
deriving DecidableEq, Repr

abbrev Spec := List SRun

/-- the status a run shows to the queries -/
def SRun.status (r : SRun) : Option Line := r.last.map (fun p => ⟨r.req, p⟩)

/-- `Spec.recorded(d)`: the runs of `d` that hold a status -/
def Spec.recorded (sp : Spec) (d : Nat) : List SRun := sp.filter (fun r => r.dag == d && r.last.isSome)

/-- `open.pop(k)`: process `w` no longer records anything -/
def Spec.release (sp : Spec) (w : Nat) : Spec :=
  sp.map (fun r => if r.holder = some w then { r with holder := none } else r)

/-- `open`: a new run is appended to the log; `open[k] = run` (an earlier run of `k` is let go) -/
def Spec.openRun (sp : Spec) (w d t r8 req : Nat) : Spec :=
  Spec.release sp w ++ [{ dag := d, t := t, req8 := r8, req := req, holder := some w }]

/-- `write`: the run held by `w` gets a new last status -/
def Spec.write (sp : Spec) (w : Nat) (p : Nat) : Spec :=
  sp.map (fun r => if r.holder = some w then { r with last := some p, age := 0 } else r)

/-- `close`: the run is let go; compaction rewrites its record if there is a status -/
def Spec.close (sp : Spec) (w : Nat) : Spec :=
  sp.map (fun r => if r.holder = some w then
    (if r.last.isSome then { r with holder := none, comp := true, age := 0 } else { r with holder := none }) else r)

/-- `abandon`: the recorder is killed, no compaction -/
def Spec.abandon (sp : Spec) (w : Nat) : Spec := Spec.release sp w

/-- `update`: a manual status for the recorded run of `d` with that request id -/
def Spec.update (sp : Spec) (d : Nat) (l : Line) : Spec :=
  sp.map (fun r => if r.dag = d ∧ r.req = l.req ∧ r.last.isSome then { r with last := some l.pay, age := 0 } else r)

/-- `rename`: the log of `d` is appended to that of `d2` -/
def Spec.rename (sp : Spec) (d d2 : Nat) : Spec :=
  if d = d2 then sp else sp.map (fun r => if r.dag = d then { r with dag := d2 } else r)

def Spec.age (sp : Spec) (d days : Nat) : Spec :=
  sp.map (fun r => if r.dag = d then { r with age := r.age + days } else r)

/-- `removeOld`: runs of `d` not modified for `days` days are forgotten, except those still being
    recorded (`or r in self.open.values()`); `removeAll` = `removeOld 0` -/
def Spec.removeOld (sp : Spec) (d days : Nat) : Spec :=
  sp.filter (fun r => !(r.dag == d && decide (r.age ≥ days) && r.holder.isNone))

/-! `HOp` is the third listing of the store's operations: `COp` (Hist/Crash.lean) has the six operations a crash can
  interrupt, `Op` (Proofs/Hist.lean) adds the test harness' `age`, and `HOp` adds `abandon` (the recorder is
  killed) and gives `openRun` the full request id, which only the specification records. On `openRun` (request id
  dropped), `write`, `close`, `update`, `rename`, `age`, `removeOld` both `applyStore` and `apply` are the same store
  function by `rfl`; "reachable" means by `apply` in C07 and by `applyStore` here. -/

inductive HOp
  | openRun (w d t r8 req : Nat)
  | write (w : Nat) (l : Line)
  | close (w : Nat)
  | abandon (w : Nat)
  | update (d : Nat) (l : Line)
  | rename (d d2 : Nat)
  | age (d days : Nat)
  | removeOld (d days : Nat)
deriving DecidableEq, Repr

/-- the recorder is killed: its entry is dropped, nothing is compacted (Driver/Hist.lean, `abandon`) -/
def abandon (s : Store) (w : Nat) : Store := { s with writers := s.writers.filter (fun p => p.1 != w) }

def applyStore (s : Store) : HOp → Store
  | .openRun w d t r8 _ => openRun s w d t r8
  | .write w l => write s w l
  | .close w => close s w
  | .abandon w => abandon s w
  | .update d l => (update s d l).1
  | .rename d d2 => rename s d d2
  | .age d days => ageFiles s d days
  | .removeOld d days => removeOld s d days

def applySpec (sp : Spec) : HOp → Spec
  | .openRun w d t r8 req => Spec.openRun sp w d t r8 req
  | .write w l => Spec.write sp w l.pay
  | .close w => Spec.close sp w
  | .abandon w => Spec.abandon sp w
  | .update d l => Spec.update sp d l
  | .rename d d2 => Spec.rename sp d d2
  | .age d days => Spec.age sp d days
  | .removeOld d days => Spec.removeOld sp d days

/-- two runs that could be confused inside one DAG: same request id, or same file name
    (start time and the request-id prefix that goes into the name) -/
def Clash (a b : SRun) : Prop := a.dag = b.dag ∧ (a.req = b.req ∨ (a.t = b.t ∧ a.req8 = b.req8))

instance (a b : SRun) : Decidable (Clash a b) := by unfold Clash; infer_instance

/-- side condition of one operation, a decidable statement about the specification state alone:
    * `openRun`: no run of the DAG has the new run's request id or its (start time, req8) name;
    * `write`: a recorder writes statuses of its own run (the request id of a run never changes);
    * `rename d d2` (d ≠ d2): no run of `d` is still being recorded, and no run of `d` has the request
      id or the (start time, req8) name of a run of `d2`;
    * `removeOld d days`: no run of `d` that is old enough to be removed is still being recorded;
    * `close`, `abandon`, `update`, `age`: nothing. -/
def Admissible (sp : Spec) : HOp → Prop
  | .openRun _ d t r8 req => ∀ r ∈ sp, r.dag = d → ¬ (r.req = req ∨ (r.t = t ∧ r.req8 = r8))
  | .write w l => ∀ r ∈ sp, r.holder = some w → r.req = l.req
  | .rename d d2 => d ≠ d2 →
      (∀ r ∈ sp, r.dag = d → r.holder = none) ∧
      (∀ a ∈ sp, ∀ b ∈ sp, a.dag = d → b.dag = d2 → ¬ (a.req = b.req ∨ (a.t = b.t ∧ a.req8 = b.req8)))
  | .removeOld d days => ∀ r ∈ sp, r.dag = d → r.age ≥ days → r.holder = none
  | _ => True

instance (sp : Spec) (op : HOp) : Decidable (Admissible sp op) := by
  cases op <;> unfold Admissible <;> infer_instance

/-- every operation of the sequence is admissible in the specification state it is applied to -/
def AdmissibleSeq : Spec → List HOp → Prop
  | _, [] => True
  | sp, op :: ops => Admissible sp op ∧ AdmissibleSeq (applySpec sp op) ops

instance : (sp : Spec) → (ops : List HOp) → Decidable (AdmissibleSeq sp ops)
  | _, [] => isTrue trivial
  | sp, op :: ops =>
    have := instDecidableAdmissibleSeq (applySpec sp op) ops
    by unfold AdmissibleSeq; infer_instance

/-- name of the run's original file -/
def SRun.origKey (r : SRun) : Key := ⟨r.dag, r.t, r.req8, false⟩

/-- name of the run's effective file: the original, or the `_c` twin once the recorder was closed
    after a status was written -/
def SRun.fileKey (r : SRun) : Key := ⟨r.dag, r.t, r.req8, r.comp⟩

/-- file `f` is the record of run `r`: it has the run's name, its modification age, and its last
    complete line is the run's last status (no complete line iff nothing was recorded) -/
structure Matches (f : RunFile) (r : SRun) : Prop where
  key : f.key = r.fileKey
  age : f.age = r.age
  status : parse f = r.status

/-- bookkeeping of one run: a run that is still being recorded has not been compacted, and a
    compacted run holds a status -/
def WFRun (r : SRun) : Prop := (r.holder ≠ none → r.comp = false) ∧ (r.comp = true → r.last ≠ none)

/-- **simulation relation**: every run of the specification has a file that is its record, every file
    of the store is the record of a run, different files have different names, no two runs of the
    specification can be confused, and the recorders of both sides hold the same runs. -/
structure Sim (s : Store) (sp : Spec) : Prop where
  run_file : ∀ r ∈ sp, ∃ f ∈ s.files, Matches f r
  file_run : ∀ f ∈ s.files, ∃ r ∈ sp, Matches f r
  key_inj : ∀ f ∈ s.files, ∀ g ∈ s.files, f.key = g.key → f = g
  distinct : sp.Pairwise (fun a b => ¬ Clash a b)
  wf : ∀ r ∈ sp, WFRun r
  writer : ∀ w k, writerKey s w = some k ↔ ∃ r ∈ sp, r.holder = some w ∧ k = r.origKey
  holder_unique : ∀ a ∈ sp, ∀ b ∈ sp, ∀ w, a.holder = some w → b.holder = some w → a = b

theorem Clash.symm {a b : SRun} (h : Clash a b) : Clash b a := by
  unfold Clash at *; omega

theorem clash_congr {a b a' b' : SRun} (ha : a'.dag = a.dag ∧ a'.t = a.t ∧ a'.req8 = a.req8 ∧ a'.req = a.req)
    (hb : b'.dag = b.dag ∧ b'.t = b.t ∧ b'.req8 = b.req8 ∧ b'.req = b.req) (h : Clash a' b') : Clash a b := by
  unfold Clash at *; omega

theorem eq_of_clash {sp : Spec} (hd : sp.Pairwise (fun a b => ¬ Clash a b)) {a b : SRun} (ha : a ∈ sp) (hb : b ∈ sp)
    (hc : Clash a b) : a = b :=
  List.Pairwise.forall_of_forall_of_flip (R := fun a b => Clash a b → a = b) (fun _ _ _ => rfl)
    (hd.imp fun hn hc => absurd hc hn) (hd.imp fun hn hc => absurd hc.symm hn) ha hb hc

theorem Sim.eq_of_clash {s sp} (h : Sim s sp) {a b : SRun} (ha : a ∈ sp) (hb : b ∈ sp) (hc : Clash a b) : a = b :=
  Hist.eq_of_clash h.distinct ha hb hc

/-- stated on the constructor, with any `_c` flags, so that `fileKey`, `origKey` and the literal names of
    `openRun` / `close` are all instances -/
theorem clash_of_name {a b : SRun} {c c' : Bool} (h : Key.mk a.dag a.t a.req8 c = ⟨b.dag, b.t, b.req8, c'⟩) :
    Clash a b :=
  ⟨congrArg Key.dag h, Or.inr ⟨congrArg Key.stamp h, congrArg Key.req8 h⟩⟩

theorem Matches.dag {f : RunFile} {r : SRun} (h : Matches f r) : f.dag = r.dag := congrArg Key.dag h.key
theorem Matches.stamp {f : RunFile} {r : SRun} (h : Matches f r) : f.stamp = r.t := congrArg Key.stamp h.key
theorem Matches.req8 {f : RunFile} {r : SRun} (h : Matches f r) : f.req8 = r.req8 := congrArg Key.req8 h.key
theorem Matches.comp {f : RunFile} {r : SRun} (h : Matches f r) : f.comp = r.comp := congrArg Key.comp h.key

theorem Matches.fields {f : RunFile} {r : SRun} (h : Matches f r) :
    f.dag = r.dag ∧ f.stamp = r.t ∧ f.req8 = r.req8 ∧ f.comp = r.comp :=
  ⟨h.dag, h.stamp, h.req8, h.comp⟩

theorem Sim.key_iff {s sp} (h : Sim s sp) {f : RunFile} {r r0 : SRun} (hr : r ∈ sp) (hr0 : r0 ∈ sp)
    (m : Matches f r) : f.key = r0.fileKey ↔ r = r0 := by
  constructor
  · intro hk
    exact h.eq_of_clash hr hr0 (clash_of_name (m.key.symm.trans hk))
  · rintro rfl; exact m.key

/-- two runs held by one recorder have the same original file name, so they are one run: the last
    field of `Sim` follows from `distinct` and `writer` -/
theorem holder_unique_of {s : Store} {sp : Spec} (hd : sp.Pairwise (fun a b => ¬ Clash a b))
    (hw : ∀ w k, writerKey s w = some k ↔ ∃ r ∈ sp, r.holder = some w ∧ k = r.origKey) :
    ∀ a ∈ sp, ∀ b ∈ sp, ∀ w, a.holder = some w → b.holder = some w → a = b := by
  intro a ha b hb w h1 h2
  have hk := (hw w a.origKey).mpr ⟨a, ha, h1, rfl⟩
  rw [(hw w b.origKey).mpr ⟨b, hb, h2, rfl⟩] at hk
  exact eq_of_clash hd ha hb (clash_of_name (Option.some.inj hk)).symm

theorem Sim.congr {s s' : Store} {sp} (h : Sim s sp) (hf : ∀ f, f ∈ s'.files ↔ f ∈ s.files)
    (hw : s'.writers = s.writers) : Sim s' sp where
  run_file r hr := by obtain ⟨f, hf', m⟩ := h.run_file r hr; exact ⟨f, (hf f).mpr hf', m⟩
  file_run f hf' := h.file_run f ((hf f).mp hf')
  key_inj f hf' g hg := h.key_inj f ((hf f).mp hf') g ((hf g).mp hg)
  distinct := h.distinct
  wf := h.wf
  writer w k := by rw [← h.writer w k, writerKey, writerKey, hw]
  holder_unique := h.holder_unique

/-- `hM` gives `run_file` and `file_run`, `hC` gives `distinct` and (with `hM`) `key_inj`, `hwf` gives `wf`, `hwr` gives
    `writer`; `holder_unique` follows -/
theorem Sim.map {s : Store} {sp : Spec} (h : Sim s sp) {F : RunFile → RunFile} {G : SRun → SRun}
    {ws : List (Nat × Key)}
    (hM : ∀ f ∈ s.files, ∀ r ∈ sp, Matches f r → Matches (F f) (G r))
    (hC : ∀ a ∈ sp, ∀ b ∈ sp, Clash (G a) (G b) → Clash a b)
    (hwf : ∀ r ∈ sp, WFRun (G r))
    (hwr : ∀ w k, writerKey ⟨s.files.map F, ws⟩ w = some k ↔
      ∃ r ∈ sp, (G r).holder = some w ∧ k = (G r).origKey) :
    Sim ⟨s.files.map F, ws⟩ (sp.map G) := by
  have hd : (sp.map G).Pairwise (fun a b => ¬ Clash a b) := by
    rw [List.pairwise_map]
    exact List.Pairwise.imp_of_mem (fun ha hb hn hc => hn (hC _ ha _ hb hc)) h.distinct
  have hw : ∀ w k, writerKey ⟨s.files.map F, ws⟩ w = some k ↔
      ∃ r ∈ sp.map G, r.holder = some w ∧ k = r.origKey := by
    refine fun w k => (hwr w k).trans ⟨fun ⟨r, hr, hh⟩ => ⟨G r, List.mem_map_of_mem hr, hh⟩, fun ⟨r', hr', hh⟩ => ?_⟩
    obtain ⟨r, hr, rfl⟩ := List.mem_map.mp hr'
    exact ⟨r, hr, hh⟩
  refine ⟨List.forall_mem_map.mpr fun r hr => ?_, List.forall_mem_map.mpr fun f hf => ?_,
    List.forall_mem_map.mpr fun a ha => List.forall_mem_map.mpr fun b hb hk => ?_,
    hd, List.forall_mem_map.mpr hwf, hw, holder_unique_of hd hw⟩
  · obtain ⟨f, hf, m⟩ := h.run_file r hr
    exact ⟨F f, List.mem_map_of_mem hf, hM f hf r hr m⟩
  · obtain ⟨r, hr, m⟩ := h.file_run f hf
    exact ⟨G r, List.mem_map_of_mem hr, hM f hf r hr m⟩
  · -- equal new names: the new runs clash, so (`hC`) the old ones do, so they are one run with one record
    obtain ⟨ra, hra, ma⟩ := h.file_run a ha
    obtain ⟨rb, hrb, mb⟩ := h.file_run b hb
    have hk' : (G ra).fileKey = (G rb).fileKey := by
      rw [← (hM a ha ra hra ma).key, ← (hM b hb rb hrb mb).key]; exact hk
    have : ra = rb := h.eq_of_clash hra hrb (hC ra hra rb hrb (clash_of_name hk'))
    subst this
    rw [h.key_inj a ha b hb (ma.key.trans mb.key.symm)]

theorem writerKey_filter (fs : List RunFile) (ws : List (Nat × Key)) (w w' : Nat) :
    writerKey ⟨fs, ws.filter (fun p => p.1 != w)⟩ w' = if w' = w then none else writerKey ⟨fs, ws⟩ w' := by
  rw [writerKey, find?_filter_fst_ne]
  split <;> rfl

/-- in `hG`, `origKey` must stay only for runs that are held: `rename` changes it for the runs of `d`, none of which is
    being recorded -/
theorem Sim.map_keep {s sp} (h : Sim s sp) {F : RunFile → RunFile} {G : SRun → SRun}
    (hM : ∀ f ∈ s.files, ∀ r ∈ sp, Matches f r → Matches (F f) (G r))
    (hC : ∀ a ∈ sp, ∀ b ∈ sp, Clash (G a) (G b) → Clash a b)
    (hwf : ∀ r ∈ sp, WFRun (G r))
    (hG : ∀ r ∈ sp, (G r).holder = r.holder ∧ (r.holder ≠ none → (G r).origKey = r.origKey)) :
    Sim ⟨s.files.map F, s.writers⟩ (sp.map G) := by
  refine h.map hM hC hwf fun w k => (h.writer w k).trans (exists_congr fun r => and_congr_right fun hr => ?_)
  obtain ⟨g1, g2⟩ := hG r hr
  rw [g1]
  exact and_congr_right fun h1 => by rw [g2 (by simp [h1])]

theorem Sim.map_release {s sp} (h : Sim s sp) {F : RunFile → RunFile} {G : SRun → SRun} (w0 : Nat)
    (hM : ∀ f ∈ s.files, ∀ r ∈ sp, Matches f r → Matches (F f) (G r))
    (hC : ∀ a ∈ sp, ∀ b ∈ sp, Clash (G a) (G b) → Clash a b)
    (hwf : ∀ r ∈ sp, WFRun (G r))
    (hG : ∀ r ∈ sp, (G r).holder = (if r.holder = some w0 then none else r.holder) ∧ (G r).origKey = r.origKey) :
    Sim ⟨s.files.map F, s.writers.filter (fun p => p.1 != w0)⟩ (sp.map G) := by
  refine h.map hM hC hwf fun w k => ?_
  have hh : ∀ r ∈ sp, (G r).holder = some w ↔ w ≠ w0 ∧ r.holder = some w := by
    intro r hr
    rw [(hG r hr).1]
    split
    · rename_i e
      exact ⟨nofun, fun ⟨hne, e'⟩ => absurd (Option.some.inj (e'.symm.trans e)) hne⟩
    · rename_i e
      exact ⟨fun e' => ⟨fun ew => e (ew ▸ e'), e'⟩, And.right⟩
  rw [writerKey_filter]
  split
  · rename_i e
    exact ⟨nofun, fun ⟨r, hr, h1, _⟩ => absurd e ((hh r hr).mp h1).1⟩
  · rename_i e
    refine (h.writer w k).trans (exists_congr fun r => and_congr_right fun hr => ?_)
    rw [hh r hr, (hG r hr).2, and_iff_right e]

/-- the run a recorder of the store holds: not compacted yet, so the recorder's file is the run's record -/
theorem Sim.held {s sp} (h : Sim s sp) {w : Nat} {k : Key} (hw : writerKey s w = some k) :
    ∃ r0 ∈ sp, r0.holder = some w ∧ r0.comp = false ∧ k = r0.fileKey ∧ ∀ r ∈ sp, r.holder = some w ↔ r = r0 := by
  obtain ⟨r0, hr0, hh0, hk⟩ := (h.writer w k).mp hw
  have hc0 : r0.comp = false := (h.wf r0 hr0).1 (by simp [hh0])
  refine ⟨r0, hr0, hh0, hc0, by rw [hk, SRun.origKey, SRun.fileKey, hc0], fun r hr => ⟨fun e => ?_, fun e => e ▸ hh0⟩⟩
  exact h.holder_unique r hr r0 hr0 w e hh0

theorem Sim.no_holder {s sp} (h : Sim s sp) {w : Nat} (hw : writerKey s w = none) : ∀ r ∈ sp, r.holder ≠ some w := by
  intro r hr hh
  have := (h.writer w r.origKey).mpr ⟨r, hr, hh, rfl⟩
  rw [hw] at this; cases this

theorem Matches.ite {f f' : RunFile} {r r' : SRun} {cf cr : Prop} [Decidable cf] [Decidable cr]
    (m : Matches f r) (hc : cf ↔ cr) (hm : cr → Matches f' r') :
    Matches (if cf then f' else f) (if cr then r' else r) := by
  by_cases e : cr
  · rw [if_pos e, if_pos (hc.mpr e)]; exact hm e
  · rw [if_neg e, if_neg (mt hc.mp e)]; exact m

/-- `c` is how the operation selects the run: by its recorder (`write`) or by DAG and request id (`update`) -/
theorem Sim.set_status {s sp} (h : Sim s sp) {r0 : SRun} (hr0 : r0 ∈ sp) (l : Line) (hq : r0.req = l.req)
    {c : SRun → Prop} [DecidablePred c] (hc : ∀ r ∈ sp, c r ↔ r = r0) :
    Sim (appendLine s r0.fileKey l) (sp.map fun r => if c r then { r with last := some l.pay, age := 0 } else r) := by
  refine h.map_keep ?_ ?_ ?_ ?_
  · intro f _ r hr m
    refine m.ite ((h.key_iff hr hr0 m).trans (hc r hr).symm) fun e => ⟨m.key, rfl, ?_⟩
    simp [parse, SRun.status, (hc r hr).mp e, hq]
  · exact fun a _ b _ => clash_congr (by split <;> simp) (by split <;> simp)
  · intro r hr
    split
    · exact ⟨(h.wf r hr).1, fun _ => by simp⟩
    · exact h.wf r hr
  · intro r _; split <;> exact ⟨rfl, fun _ => rfl⟩

theorem sim_write {s sp} (h : Sim s sp) (w : Nat) (l : Line) (ha : ∀ r ∈ sp, r.holder = some w → r.req = l.req) :
    Sim (write s w l) (Spec.write sp w l.pay) := by
  unfold write
  cases hw : writerKey s w with
  | none =>
    rw [Spec.write, map_eq_self fun r hr => if_neg (h.no_holder hw r hr)]
    exact h
  | some k =>
    obtain ⟨r0, hr0, hh0, _, rfl, hone⟩ := h.held hw
    exact h.set_status hr0 l (ha r0 hr0 hh0) hone

theorem sim_release {s sp} (h : Sim s sp) (w : Nat) : Sim (abandon s w) (Spec.release sp w) := by
  -- the files are untouched: `map id`, the same set of files
  refine Sim.congr (s := ⟨s.files.map id, s.writers.filter (fun p => p.1 != w)⟩) (h.map_release w ?_ ?_ ?_ ?_)
    (by simp [abandon]) rfl
  · intro f _ r _ m
    split
    · exact ⟨m.key, m.age, m.status⟩
    · exact m
  · exact fun a _ b _ => clash_congr (by split <;> simp) (by split <;> simp)
  · intro r hr
    split
    · exact ⟨fun e => absurd rfl e, (h.wf r hr).2⟩
    · exact h.wf r hr
  · intro r _; split <;> exact ⟨rfl, rfl⟩

theorem sim_age {s sp} (h : Sim s sp) (d days : Nat) : Sim (ageFiles s d days) (Spec.age sp d days) := by
  refine h.map_keep ?_ ?_ ?_ ?_
  · intro f _ r _ m
    exact m.ite (by rw [m.dag]) fun _ => ⟨m.key, congrArg (· + days) m.age, m.status⟩
  · exact fun a _ b _ => clash_congr (by split <;> simp) (by split <;> simp)
  · intro r hr
    split <;> exact h.wf r hr
  · intro r _; split <;> exact ⟨rfl, fun _ => rfl⟩

theorem status_eq_some {r : SRun} {l : Line} (h : r.status = some l) : r.last = some l.pay ∧ l.req = r.req := by
  obtain ⟨p, hp, rfl⟩ := Option.map_eq_some_iff.mp h
  exact ⟨hp, rfl⟩

theorem sim_update {s sp} (h : Sim s sp) (d : Nat) (l : Line) : Sim (update s d l).1 (Spec.update sp d l) := by
  unfold update
  cases hfd : find s d l.req with
  | none =>
    rw [Spec.update, map_eq_self fun r hr => if_neg fun hc => ?_]
    · exact h
    · obtain ⟨f, hf, m⟩ := h.run_file r hr
      obtain ⟨p, hp⟩ := Option.isSome_iff_exists.mp hc.2.2
      exact find_none hfd f hf (m.dag.trans hc.1) ⟨r.req, p⟩ (by rw [m.status, SRun.status, hp]; rfl) hc.2.1
  | some fl =>
    obtain ⟨f0, l0⟩ := fl
    -- the file `find` answers with is the record of the one run of `d` with that request id
    obtain ⟨hf0, hd0, hp0, hq0⟩ := find_some hfd
    obtain ⟨r0, hr0, m0⟩ := h.file_run f0 hf0
    obtain ⟨hl0, hq⟩ := status_eq_some (m0.status ▸ hp0)
    have hq' : r0.req = l.req := hq.symm.trans hq0
    have hd' : r0.dag = d := m0.dag.symm.trans hd0
    show Sim (appendLine s f0.key l) _
    rw [m0.key]
    refine h.set_status hr0 l hq' fun r hr => ⟨fun hc => ?_, ?_⟩
    · exact h.eq_of_clash hr hr0 ⟨hc.1.trans hd'.symm, Or.inl (hc.2.1.trans hq'.symm)⟩
    · rintro rfl; exact ⟨hd', hq', by rw [hl0]; rfl⟩

theorem Sim.filter {s sp} (h : Sim s sp) (P : RunFile → Bool) (Q : SRun → Bool)
    (hPQ : ∀ f ∈ s.files, ∀ r ∈ sp, Matches f r → P f = Q r)
    (hQ : ∀ r ∈ sp, Q r = false → r.holder = none) :
    Sim ⟨s.files.filter P, s.writers⟩ (sp.filter Q) := by
  refine ⟨?_, ?_, ?_, h.distinct.filter Q, ?_, ?_, ?_⟩
  · intro r hr
    obtain ⟨hr, hq⟩ := List.mem_filter.mp hr
    obtain ⟨f, hf, m⟩ := h.run_file r hr
    exact ⟨f, List.mem_filter.mpr ⟨hf, (hPQ f hf r hr m).trans hq⟩, m⟩
  · intro f hf
    obtain ⟨hf, hp⟩ := List.mem_filter.mp hf
    obtain ⟨r, hr, m⟩ := h.file_run f hf
    exact ⟨r, List.mem_filter.mpr ⟨hr, (hPQ f hf r hr m).symm.trans hp⟩, m⟩
  · intro f hf g hg
    exact h.key_inj f (List.mem_filter.mp hf).1 g (List.mem_filter.mp hg).1
  · intro r hr; exact h.wf r (List.mem_filter.mp hr).1
  · intro w k
    refine (h.writer w k).trans ⟨?_, ?_⟩
    · rintro ⟨r, hr, h1, h2⟩
      refine ⟨r, List.mem_filter.mpr ⟨hr, ?_⟩, h1, h2⟩
      cases hq : Q r with
      | true => rfl
      | false => rw [hQ r hr hq] at h1; cases h1
    · rintro ⟨r, hr, h1, h2⟩
      exact ⟨r, (List.mem_filter.mp hr).1, h1, h2⟩
  · intro a ha b hb
    exact h.holder_unique a (List.mem_filter.mp ha).1 b (List.mem_filter.mp hb).1

theorem sim_removeOld {s sp} (h : Sim s sp) (d days : Nat)
    (ha : ∀ r ∈ sp, r.dag = d → r.age ≥ days → r.holder = none) :
    Sim (removeOld s d days) (Spec.removeOld sp d days) := by
  refine h.filter _ _ ?_ ?_
  · intro f _ r hr m
    rw [m.dag, m.age]
    by_cases h1 : r.dag = d <;> by_cases h2 : r.age ≥ days
    · simp [h1, h2, ha r hr h1 h2]
    · simp [h1, h2]
    · simp [h1]
    · simp [h1]
  · intro r _ hq
    simp only [Bool.not_eq_false', Bool.and_eq_true] at hq
    simpa using hq.2

theorem Sim.hasKey_false {s sp} (h : Sim s sp) {k : Key} (hk : ∀ r ∈ sp, r.fileKey ≠ k) : hasKey s k = false := by
  rw [hasKey, List.any_eq_false]
  intro f hf e
  obtain ⟨r, hr, m⟩ := h.file_run f hf
  exact hk r hr (m.key.symm.trans (beq_iff_eq.mp e))

theorem Sim.add {s sp} (h : Sim s sp) {fn : RunFile} {rn : SRun} {w : Nat} (mn : Matches fn rn) (hwf : WFRun rn)
    (hh : rn.holder = some w) (hfresh : ∀ r ∈ sp, ¬ Clash r rn) (hw : writerKey s w = none) :
    Sim ⟨s.files ++ [fn], (w, rn.origKey) :: s.writers⟩ (sp ++ [rn]) := by
  have hnk : ∀ f ∈ s.files, f.key ≠ fn.key := by
    intro f hf e
    obtain ⟨r, hr, m⟩ := h.file_run f hf
    exact hfresh r hr (clash_of_name ((m.key.symm.trans e).trans mn.key))
  have hd : (sp ++ [rn]).Pairwise (fun a b => ¬ Clash a b) := by
    rw [List.pairwise_append]
    exact ⟨h.distinct, List.pairwise_singleton _ _, fun a ha b hb => List.mem_singleton.mp hb ▸ hfresh a ha⟩
  have hwr : ∀ w' k, writerKey ⟨s.files ++ [fn], (w, rn.origKey) :: s.writers⟩ w' = some k ↔
      ∃ r ∈ sp ++ [rn], r.holder = some w' ∧ k = r.origKey := by
    intro w' k
    have hwk : writerKey ⟨s.files ++ [fn], (w, rn.origKey) :: s.writers⟩ w' =
        if w = w' then some rn.origKey else writerKey s w' := by
      by_cases e : w = w' <;> simp [writerKey, e]
    rw [hwk]
    simp only [List.mem_append, List.mem_singleton, or_and_right, exists_or, exists_eq_left, hh, Option.some.injEq]
    split
    · rename_i e
      subst e
      refine ⟨fun hk => Or.inr ⟨rfl, (Option.some.inj hk).symm⟩, ?_⟩
      rintro (⟨r, hr, h1, _⟩ | ⟨_, h2⟩)
      · exact absurd h1 (h.no_holder hw r hr)
      · rw [h2]
    · rename_i e
      rw [h.writer]
      exact ⟨Or.inl, fun hk => hk.resolve_right fun h2 => e h2.1⟩
  have hin : fn ∈ s.files ++ [fn] ∧ rn ∈ sp ++ [rn] :=
    ⟨List.mem_append_right _ List.mem_cons_self, List.mem_append_right _ List.mem_cons_self⟩
  refine ⟨?_, ?_, ?_, hd, ?_, hwr, holder_unique_of hd hwr⟩
  · refine List.forall_mem_append.mpr ⟨fun r hr => ?_, List.forall_mem_singleton.mpr ⟨fn, hin.1, mn⟩⟩
    obtain ⟨f, hf, m⟩ := h.run_file r hr
    exact ⟨f, List.mem_append_left _ hf, m⟩
  · refine List.forall_mem_append.mpr ⟨fun f hf => ?_, List.forall_mem_singleton.mpr ⟨rn, hin.2, mn⟩⟩
    obtain ⟨r, hr, m⟩ := h.file_run f hf
    exact ⟨r, List.mem_append_left _ hr, m⟩
  · intro f hf g hg hk
    rcases List.mem_append.mp hf with hf | hf <;> rcases List.mem_append.mp hg with hg | hg
    · exact h.key_inj f hf g hg hk
    · rw [List.mem_singleton.mp hg] at hk; exact absurd hk (hnk f hf)
    · rw [List.mem_singleton.mp hf] at hk; exact absurd hk.symm (hnk g hg)
    · rw [List.mem_singleton.mp hf, List.mem_singleton.mp hg]
  · exact List.forall_mem_append.mpr ⟨h.wf, List.forall_mem_singleton.mpr hwf⟩

theorem sim_openRun {s sp} (h : Sim s sp) (w d t r8 req : Nat)
    (ha : ∀ r ∈ sp, r.dag = d → ¬ (r.req = req ∨ (r.t = t ∧ r.req8 = r8))) :
    Sim (openRun s w d t r8) (Spec.openRun sp w d t r8 req) := by
  have hk : hasKey s ⟨d, t, r8, false⟩ = false := by
    refine h.hasKey_false fun r hr e => ?_
    exact ha r hr (congrArg Key.dag e) (Or.inr ⟨congrArg Key.stamp e, congrArg Key.req8 e⟩)
  have hw : writerKey (abandon s w) w = none := by
    rw [abandon, writerKey_filter, if_pos rfl]
  rw [openRun, hk]
  refine (sim_release h w).add (rn := { dag := d, t := t, req8 := r8, req := req, holder := some w }) ⟨rfl, rfl, rfl⟩
    ⟨fun _ => rfl, fun e => by cases e⟩ rfl ?_ hw
  intro r' hr' hc
  obtain ⟨r, hr, rfl⟩ := List.mem_map.mp hr'
  refine ha r hr ?_ ?_
  · split at hc <;> exact hc.1
  · split at hc <;> exact hc.2

/-- the compacted twin written by `close` -/
def twin (k : Key) (l : Line) : RunFile :=
  { dag := k.dag, stamp := k.stamp, req8 := k.req8, comp := true, lines := [l] }

theorem Sim.find_record {s sp} (h : Sim s sp) {r : SRun} (hr : r ∈ sp) :
    ∃ f ∈ s.files, Matches f r ∧ s.files.find? (fun g => g.key == r.fileKey) = some f := by
  obtain ⟨f, hf, m⟩ := h.run_file r hr
  refine ⟨f, hf, m, ?_⟩
  cases hfi : s.files.find? (fun g => g.key == r.fileKey) with
  | none => exact absurd (beq_iff_eq.mpr m.key) (List.find?_eq_none.mp hfi f hf)
  | some g =>
    have hk := List.find?_some hfi
    rw [h.key_inj g (List.mem_of_find?_eq_some hfi) f hf ((beq_iff_eq.mp hk).trans m.key.symm)]

theorem sim_close {s sp} (h : Sim s sp) (w : Nat) : Sim (close s w) (Spec.close sp w) := by
  unfold close
  cases hw : writerKey s w with
  | none =>
    rw [Spec.close, map_eq_self fun r hr => if_neg (h.no_holder hw r hr)]
    exact h
  | some k =>
    obtain ⟨r0, hr0, hh0, hc0, hk, hone⟩ := h.held hw
    obtain ⟨f0, hf0, m0, hfind⟩ := h.find_record hr0
    rw [← hk] at hfind
    simp only [hfind, Option.bind_some, m0.status, SRun.status]
    cases hl : r0.last with
    | none =>
      have : Spec.close sp w = Spec.release sp w := by
        refine List.map_congr_left fun r hr => ?_
        split
        · rename_i e; rw [(hone r hr).mp e, hl]; rfl
        · rfl
      rw [this]
      exact sim_release h w
    | some p =>
      have hnk : hasKey ⟨s.files, s.writers.filter (fun q => q.1 != w)⟩ ⟨k.dag, k.stamp, k.req8, true⟩ = false := by
        -- a run with the twin's name is `r0` itself, which is not compacted
        refine h.hasKey_false fun r hr e => ?_
        rw [hk] at e
        have hcomp : r.comp = true := congrArg Key.comp e
        rw [h.eq_of_clash hr hr0 (clash_of_name (b := r0) e), hc0] at hcomp
        cases hcomp
      simp only [Option.map_some, hnk, Bool.false_eq_true, if_false]
      -- "append the twin, drop the original" leaves the same SET of files as "the original becomes the twin",
      -- a file-by-file map to which `Sim.map_release` applies (last bullet: the two sets agree)
      refine Sim.congr (s := ⟨s.files.map fun f => if f.key = k then twin k ⟨r0.req, p⟩ else f, _⟩)
        (h.map_release w ?_ ?_ ?_ ?_) ?_ rfl
      · intro f _ r hr m
        refine m.ite (by rw [hk]; exact (h.key_iff hr hr0 m).trans (hone r hr).symm) fun e => ?_
        rw [(hone r hr).mp e, if_pos (by rw [hl]; rfl)]
        exact ⟨by rw [hk, SRun.fileKey]; rfl, rfl, by rw [SRun.status, hl]; rfl⟩
      · exact fun a _ b _ => clash_congr (by split <;> (try split) <;> simp) (by split <;> (try split) <;> simp)
      · intro r hr
        obtain ⟨h1, h2⟩ := h.wf r hr
        split
        · split
          · rename_i e; exact ⟨fun e' => absurd rfl e', fun _ e' => by rw [e'] at e; cases e⟩
          · exact ⟨fun e' => absurd rfl e', h2⟩
        · exact ⟨h1, h2⟩
      · intro r _
        split
        · split <;> exact ⟨rfl, rfl⟩
        · exact ⟨rfl, rfl⟩
      · intro f'
        simp only [List.mem_filter, List.mem_append, List.mem_singleton, List.mem_map, bne_iff_ne, ne_eq]
        constructor
        · rintro ⟨hf' | hf', hne⟩
          · exact ⟨f', hf', if_neg hne⟩
          · exact ⟨f0, hf0, by rw [if_pos (m0.key.trans hk.symm), hf']; rfl⟩
        · rintro ⟨f, hf, rfl⟩
          split
          · refine ⟨Or.inr rfl, fun e => ?_⟩
            have := congrArg Key.comp e
            rw [hk, SRun.fileKey, hc0] at this
            cases this
          · rename_i e; exact ⟨Or.inl hf, e⟩

theorem clash_rename {d d2 : Nat} {a b : SRun}
    (hab : a.dag = d → b.dag = d2 → ¬ (a.req = b.req ∨ (a.t = b.t ∧ a.req8 = b.req8)))
    (hba : b.dag = d → a.dag = d2 → ¬ (b.req = a.req ∨ (b.t = a.t ∧ b.req8 = a.req8)))
    (hc : Clash (if a.dag = d then { a with dag := d2 } else a) (if b.dag = d then { b with dag := d2 } else b)) :
    Clash a b := by
  unfold Clash at *
  by_cases ea : a.dag = d <;> by_cases eb : b.dag = d
  · rw [if_pos ea, if_pos eb] at hc; exact ⟨ea.trans eb.symm, hc.2⟩
  · rw [if_pos ea, if_neg eb] at hc; exact absurd hc.2 (hab ea hc.1.symm)
  · rw [if_neg ea, if_pos eb] at hc
    exact absurd (hc.2.imp Eq.symm (And.imp Eq.symm Eq.symm)) (hba eb hc.1)
  · rw [if_neg ea, if_neg eb] at hc; exact hc

theorem sim_rename {s sp} (h : Sim s sp) (d d2 : Nat)
    (ha : d ≠ d2 → (∀ r ∈ sp, r.dag = d → r.holder = none) ∧
      (∀ a ∈ sp, ∀ b ∈ sp, a.dag = d → b.dag = d2 → ¬ (a.req = b.req ∨ (a.t = b.t ∧ a.req8 = b.req8)))) :
    Sim (rename s d d2) (Spec.rename sp d d2) := by
  unfold rename Spec.rename
  split
  · exact h
  rename_i e
  obtain ⟨hno, hcol⟩ := ha e
  -- "keep the others, append the moved files in glob order" is the same SET of files as "relabel the files of `d`
  -- where they stand" (last bullet; no moved file replaces a kept one, by the side condition)
  refine Sim.congr (s := ⟨s.files.map fun f => if f.dag = d then { f with dag := d2 } else f, _⟩)
    (h.map_keep ?_ ?_ ?_ ?_) ?_ rfl
  · intro f _ r _ m
    refine m.ite (by rw [m.dag]) fun _ => ⟨?_, m.age, m.status⟩
    simp only [RunFile.key, SRun.fileKey, Key.mk.injEq]
    exact ⟨trivial, m.stamp, m.req8, m.comp⟩
  · exact fun a ha b hb => clash_rename (hcol a ha b hb) (hcol b hb a ha)
  · intro r hr
    split <;> exact h.wf r hr
  · intro r hr
    split
    · rename_i er; exact ⟨rfl, fun hn => absurd (hno r hr er) hn⟩
    · exact ⟨rfl, fun _ => rfl⟩
  · intro f'
    simp only [List.mem_append, List.mem_filter, List.mem_map, mem_glob]
    constructor
    · rintro (⟨hf', hc⟩ | ⟨g, ⟨hg, hgd⟩, rfl⟩)
      · have : ¬ f'.dag = d := by
          intro e'; simp [e'] at hc
        exact ⟨f', hf', if_neg this⟩
      · exact ⟨g, hg, if_pos hgd⟩
    · rintro ⟨f, hf, rfl⟩
      split
      · rename_i ef; exact Or.inr ⟨f, ⟨hf, ef⟩, rfl⟩
      · rename_i ef
        refine Or.inl ⟨hf, ?_⟩
        have hany : (List.map (fun f => ({ f with dag := d2 } : RunFile)) (glob s d)).any
            (fun m => m.key == f.key) = false := by
          rw [List.any_eq_false]
          intro m hm'
          obtain ⟨g, hg, rfl⟩ := List.mem_map.mp hm'
          rw [mem_glob] at hg
          intro hk
          -- a moved file `g` with the name of a kept file `f`: the run of `g` (in `d`) and the run of `f` (then in
          -- `d2`) have the same start time and request-id prefix, which is what `Admissible` excludes
          have hk : ({ g with dag := d2 } : RunFile).key = f.key := beq_iff_eq.mp hk
          obtain ⟨rg, hrg, mg⟩ := h.file_run g hg.1
          obtain ⟨rf, hrf, mf⟩ := h.file_run f hf
          have hdag : rf.dag = d2 := mf.dag.symm.trans (congrArg Key.dag hk).symm
          have hstamp : rg.t = rf.t := mg.stamp.symm.trans ((congrArg Key.stamp hk).trans mf.stamp)
          have hreq8 : rg.req8 = rf.req8 := mg.req8.symm.trans ((congrArg Key.req8 hk).trans mf.req8)
          exact hcol rg hrg rf hrf (mg.dag.symm.trans hg.2) hdag (Or.inr ⟨hstamp, hreq8⟩)
        simp [ef, hany]

theorem sim_step {s sp} (h : Sim s sp) (op : HOp) (ha : Admissible sp op) :
    Sim (applyStore s op) (applySpec sp op) := by
  cases op with
  | openRun w d t r8 req => exact sim_openRun h w d t r8 req ha
  | write w l => exact sim_write h w l ha
  | close w => exact sim_close h w
  | abandon w => exact sim_release h w
  | update d l => exact sim_update h d l
  | rename d d2 => exact sim_rename h d d2 ha
  | age d days => exact sim_age h d days
  | removeOld d days => exact sim_removeOld h d days ha

theorem sim_seq {s sp} (h : Sim s sp) (ops : List HOp) (ha : AdmissibleSeq sp ops) :
    Sim (ops.foldl applyStore s) (ops.foldl applySpec sp) := by
  induction ops generalizing s sp with
  | nil => exact h
  | cons op rest ih => exact ih (sim_step h op ha.1) ha.2

theorem Spec.mem_recorded {sp : Spec} {d : Nat} {r : SRun} :
    r ∈ Spec.recorded sp d ↔ r ∈ sp ∧ r.dag = d ∧ r.last.isSome = true := by
  simp [Spec.recorded]

theorem Matches.recorded_iff {f : RunFile} {r : SRun} (m : Matches f r) (d : Nat) :
    f.dag = d ∧ (parse f).isSome = true ↔ r.dag = d ∧ r.last.isSome = true := by
  rw [m.dag, m.status, SRun.status, Option.isSome_map]

theorem Sim.nodup {s sp} (h : Sim s sp) : sp.Nodup := by
  rw [List.nodup_iff_pairwise_ne]
  exact h.distinct.imp (fun {a b} (hn : ¬ Clash a b) (e : a = b) => hn (by subst e; exact ⟨rfl, Or.inl rfl⟩))

theorem Sim.recorded_nodup {s sp} (h : Sim s sp) (d : Nat) : (Spec.recorded sp d).Nodup :=
  h.nodup.sublist List.filter_sublist

/-- a choice of "the run of a file", to read a list of files as the list of their runs (`List.map`) -/
theorem Sim.runOf {s sp} (h : Sim s sp) :
    ∃ ρ : RunFile → SRun, ∀ f ∈ s.files, ρ f ∈ sp ∧ Matches f (ρ f) := by
  refine Classical.axiomOfChoice (r := fun f r => f ∈ s.files → r ∈ sp ∧ Matches f r) fun f => ?_
  by_cases hf : f ∈ s.files
  · obtain ⟨r, hr, m⟩ := h.file_run f hf
    exact ⟨r, fun _ => ⟨hr, m⟩⟩
  · exact ⟨{ dag := 0, t := 0, req8 := 0, req := 0 }, fun hf' => absurd hf' hf⟩

/-! `KeysNodup` is an invariant of the store operations by themselves, with no side condition.
  `Sim.key_inj` says that files with one name are one file as VALUES; it allows the same file to be listed twice.
  `KeysNodup` is about list ENTRIES, and is what "exactly one file per run" (`Sim.one_file`) needs besides `Sim`. -/

/-- the file names of the store are pairwise different -/
def KeysNodup (s : Store) : Prop := (s.files.map RunFile.key).Nodup

theorem KeysNodup.pairwise {s : Store} (h : KeysNodup s) : s.files.Pairwise (fun a b => a.key ≠ b.key) := by
  rwa [KeysNodup, List.nodup_iff_pairwise_ne, List.pairwise_map] at h

theorem KeysNodup.map {s : Store} (h : KeysNodup s) {F : RunFile → RunFile} (hF : ∀ f, (F f).key = f.key)
    (ws : List (Nat × Key)) : KeysNodup ⟨s.files.map F, ws⟩ := by
  unfold KeysNodup
  rw [List.map_map, List.map_congr_left (f := RunFile.key ∘ F) (g := RunFile.key) fun f _ => hF f]
  exact h

theorem KeysNodup.appendLine {s : Store} (h : KeysNodup s) (k : Key) (l : Line) : KeysNodup (appendLine s k l) :=
  h.map (fun f => by split <;> rfl) _

theorem KeysNodup.add {s : Store} (h : KeysNodup s) (f : RunFile) (hk : hasKey s f.key = false) (ws : List (Nat × Key)) :
    KeysNodup ⟨s.files ++ [f], ws⟩ := by
  unfold KeysNodup
  rw [List.map_append, List.nodup_append]
  refine ⟨h, List.pairwise_singleton _ _, fun a ha b hb e => ?_⟩
  obtain ⟨g, hg, rfl⟩ := List.mem_map.mp ha
  rw [List.mem_singleton.mp hb] at e
  exact List.any_eq_false.mp hk g hg (beq_iff_eq.mpr e)

theorem KeysNodup.filter {s : Store} (h : KeysNodup s) (p : RunFile → Bool) (ws : List (Nat × Key)) :
    KeysNodup ⟨s.files.filter p, ws⟩ :=
  List.Nodup.sublist (List.Sublist.map _ List.filter_sublist) h

theorem keysNodup_step (s : Store) (op : HOp) (h : KeysNodup s) : KeysNodup (applyStore s op) := by
  cases op with
  | openRun w d t r8 req =>
    simp only [applyStore, openRun]
    cases hk : hasKey s ⟨d, t, r8, false⟩ with
    | true => exact h
    | false => exact h.add { dag := d, stamp := t, req8 := r8, comp := false } hk _
  | write w l =>
    simp only [applyStore, write]
    split
    · exact h.appendLine _ _
    · exact h
  | close w =>
    simp only [applyStore, close]
    split
    · exact h
    · rename_i k _
      have h1 : KeysNodup { s with writers := s.writers.filter (fun p => p.1 != w) } := h
      split
      · exact h1
      · rename_i l _
        apply KeysNodup.filter
        split
        · exact h1.appendLine _ _
        · rename_i hk
          exact h1.add (twin k l) (by simpa [twin, RunFile.key] using hk) _
  | abandon w => exact h
  | update d l =>
    simp only [applyStore, update]
    split
    · exact h.appendLine _ _
    · exact h
  | rename d d2 =>
    simp only [applyStore, rename]
    split
    · exact h
    · unfold KeysNodup
      rw [List.map_append, List.nodup_append]
      refine ⟨(h.filter _ s.writers), ?_, ?_⟩
      · -- the moved files: a permutation of the files of `d`, renamed injectively
        have hp : (glob s d).Perm (s.files.filter (fun f => f.dag == d)) := sortBy_perm _ _
        rw [((hp.map _).map _).nodup_iff, List.map_map, List.nodup_iff_pairwise_ne, List.pairwise_map]
        refine List.Pairwise.imp_of_mem ?_ (h.pairwise.filter _)
        intro a b ha hb hne e
        have hda : a.dag = d := beq_iff_eq.mp (List.mem_filter.mp ha).2
        have hdb : b.dag = d := beq_iff_eq.mp (List.mem_filter.mp hb).2
        have e : ({ a with dag := d2 } : RunFile).key = ({ b with dag := d2 } : RunFile).key := e
        exact hne (by rw [RunFile.key, RunFile.key, hda, hdb, show a.stamp = b.stamp from congrArg Key.stamp e,
          show a.req8 = b.req8 from congrArg Key.req8 e, show a.comp = b.comp from congrArg Key.comp e])
      · intro a ha b hb e
        obtain ⟨f, hf, rfl⟩ := List.mem_map.mp ha
        obtain ⟨m, hm, rfl⟩ := List.mem_map.mp hb
        have := (List.mem_filter.mp hf).2
        simp only [Bool.and_eq_true, Bool.not_eq_true', List.any_eq_false, beq_iff_eq] at this
        exact this.2 m hm e.symm
  | age d days => exact h.map (fun f => by split <;> rfl) _
  | removeOld d days => exact h.filter _ _

theorem keysNodup_seq (ops : List HOp) (s : Store) (h : KeysNodup s) : KeysNodup (ops.foldl applyStore s) :=
  List.foldlRecOn ops applyStore h fun s hs op _ => keysNodup_step s op hs

theorem Sim.one_file {s sp} (h : Sim s sp) (hn : KeysNodup s) (r : SRun) (hr : r ∈ sp) :
    ∃ f, Matches f r ∧ s.files.filter (fun g => g.key == r.fileKey) = [f] := by
  obtain ⟨f, hf, m⟩ := h.run_file r hr
  refine ⟨f, m, ?_⟩
  have hpw := hn.pairwise
  rw [← m.key]
  clear h m hn hr
  generalize s.files = fs at hf hpw
  induction fs with
  | nil => cases hf
  | cons a l ih =>
    have hc := List.pairwise_cons.mp hpw
    rcases List.mem_cons.mp hf with rfl | hf'
    · rw [List.filter_cons_of_pos (by exact beq_self_eq_true f.key),
        List.filter_eq_nil_iff.mpr fun g hg => by simpa using Ne.symm (hc.1 g hg)]
    · rw [List.filter_cons_of_neg (by simpa using hc.1 f hf')]
      exact ih hf' hc.2

end BdModel.Hist
