import BdModel.Api.Actions
/- for C20: the parameter hand-over (escapeArg, removeQuotes) is the identity on parameters without line breaks; what
   `findRunIdx` and `lastNodeIdx` return -/
namespace BdModel.Api

@[simp] theorem upd_same {α : Type} (f : Nat → α) (k : Nat) (v : α) : upd f k v k = v := by simp [upd]
@[simp] theorem upd_other {α : Type} (f : Nat → α) (k x : Nat) (v : α) (h : x ≠ k) : upd f k v x = f x := by
  simp [upd, h]

theorem escapeArg_id (p : Str) (h : noLineBreak p) : escapeArg p = p := by
  induction p with
  | nil => rfl
  | cons c rest ih =>
    have hc := h c (by simp)
    have hr : noLineBreak rest := fun x hx => h x (by simp [hx])
    simp [escapeArg, hc.1, hc.2, ih hr]

theorem removeQuotes_quoted (s : Str) : removeQuotes (34 :: (s ++ [34])) = s := by
  simp [removeQuotes]

theorem received_startArg (p : Str) (h : noLineBreak p) : received (startArg p) = p := by
  unfold startArg
  split
  · rename_i hp; simp [received, hp]
  · simp only [received]; rw [removeQuotes_quoted, escapeArg_id p h]

theorem findRunIdx_spec (l : List Run) (q k : Nat) (h : findRunIdx l q = some k) :
    ∃ r, l[k]? = some r ∧ r.reqId = q ∧ ∀ j, j < k → ∀ r', l[j]? = some r' → r'.reqId ≠ q := by
  induction l generalizing k with
  | nil => simp [findRunIdx] at h
  | cons a as ih =>
    simp only [findRunIdx] at h
    split at h
    · rename_i ha
      injection h with h; subst h
      exact ⟨a, by simp, ha, fun j hj => absurd hj (Nat.not_lt_zero j)⟩
    · rename_i ha
      cases hf : findRunIdx as q with
      | none => simp [hf] at h
      | some k' =>
        simp [hf] at h; subst h
        obtain ⟨r, h1, h2, h3⟩ := ih k' hf
        refine ⟨r, by simpa using h1, h2, ?_⟩
        intro j hj r' hr'
        cases j with
        | zero => simp at hr'; subst hr'; exact ha
        | succ j => exact h3 j (by omega) r' (by simpa using hr')

theorem lastNodeIdx_none (l : List (Nat × Nat)) (s : Nat) (h : lastNodeIdx l s = none) (j : Nat) (n : Nat × Nat)
    (hn : l[j]? = some n) : n.1 ≠ s := by
  induction l generalizing j with
  | nil => simp at hn
  | cons b bs ih =>
    simp only [lastNodeIdx] at h
    split at h
    · cases h
    · rename_i hb
      split at h
      · cases h
      · rename_i hne
        cases j with
        | zero => simp at hn; subst hn; exact hne
        | succ j => exact ih hb j (by simpa using hn)

theorem lastNodeIdx_spec (l : List (Nat × Nat)) (s i : Nat) (h : lastNodeIdx l s = some i) :
    ∃ st, l[i]? = some (s, st) ∧ ∀ j, i < j → ∀ n, l[j]? = some n → n.1 ≠ s := by
  induction l generalizing i with
  | nil => simp [lastNodeIdx] at h
  | cons a as ih =>
    simp only [lastNodeIdx] at h
    split at h
    · rename_i i' hi'
      injection h with h; subst h
      obtain ⟨st, h1, h2⟩ := ih i' hi'
      refine ⟨st, by simpa using h1, ?_⟩
      intro j hj n hn
      cases j with
      | zero => omega
      | succ j => exact h2 j (by omega) n (by simpa using hn)
    · rename_i hnone
      split at h
      · rename_i ha
        injection h with h; subst h
        refine ⟨a.2, by simp [← ha], ?_⟩
        intro j hj n hn
        cases j with
        | zero => omega
        | succ j => exact lastNodeIdx_none as s hnone j n (by simpa using hn)
      · cases h

end BdModel.Api
