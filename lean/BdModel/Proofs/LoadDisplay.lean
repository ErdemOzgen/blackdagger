import BdModel.Load.Display
import BdModel.Proofs.LoadEffects
/-
  The display path of C19: confinement for the display table, membership in `effectsFrom` and
  `loadersFrom` in terms of the table rows, and the entry list of the seeded display mutant.
-/
namespace BdModel.Load.Display
open BdModel.Load.Effects

theorem effectsFrom_eq_nil (D : DTables) (bad : List String) (e : String)
    (hedge : ∀ r ∈ D.edges, bad.contains (col r 1) = true → bad.contains (col r 0) = true)
    (hsite : ∀ r ∈ D.sites, isEffectRow r = true → bad.contains (col r 0) = true)
    (he : bad.contains e = false) : effectsFrom D e = [] := by
  have hback : BackClosed (asTables D) noOpts bad := fun r hr h => hedge r hr (Bool.and_eq_true_iff.mp h).2
  have hfns : ∀ x ∈ fnsFrom D e, bad.contains x = false := hback.closure _ [e] (by simpa using he)
  simp only [effectsFrom, List.map_eq_nil_iff, List.filter_eq_nil_iff, Bool.and_eq_true, List.contains_iff_mem]
  intro r hr ⟨hrow, hmem⟩
  have := hfns _ hmem
  rw [hsite r hr hrow] at this
  cases this

theorem mem_effectsFrom {D : DTables} {e : String} {r : List String} (hr : r ∈ D.sites) (hrow : isEffectRow r = true)
    (hf : col r 0 ∈ fnsFrom D e) : ⟨col r 0, col r 1, col r 2⟩ ∈ effectsFrom D e :=
  List.mem_map.mpr ⟨r, List.mem_filter.mpr ⟨hr, by simp [hrow, hf]⟩, rfl⟩

theorem mem_loadersFrom {D : DTables} {e l : String} :
    l ∈ loadersFrom D e ↔ ∃ r ∈ D.loaders, col r 0 ∈ fnsFrom D e ∧ col r 1 = l := by
  simp [loadersFrom, mem_addNew_iff, and_assoc]

/-- the entries whose answer contains the placeholder status of a DAG that has not run today (function names as in the
    `displayFuncs` table: `pkg.func`) -/
def placeholderEntries : List String :=
  ["fdag.getDetail", "fdag.getList", "fdag.deleteDAG", "fdag.processUpdateStatus", "client.GetStatus", "client.GetAllStatus",
   "client.GetAllStatusPagination", "client.GetLatestStatus", "client.GetCurrentStatus", "client.GetStatusByRequestID",
   "model.NewStatusDefault", "model.NewStatus", "model.FromSteps", "model.NewNode"]

end BdModel.Load.Display
