import BdModel.Auth.Chain
/- lemmas for C17: the base64 round trip, soundness of the chain, the parsers on well-formed headers -/
namespace BdModel.Auth

def WFBytes (bs : Bytes) : Prop := ∀ b ∈ bs, b < 256

/-- the alphabet is a table of 64 entries: checked entry by entry -/
theorem b64val_b64char : ∀ v, v < 64 → b64val (b64char v) = some v := by decide

theorem ne_pad_of_b64val {c v : Nat} (h : b64val c = some v) : c ≠ pad := by
  intro e
  rw [e, show b64val pad = none by decide] at h
  cases h

/-- no alphabet character is CR or LF: `decode` keeps it -/
theorem keep_b64char (v : Nat) : (b64char v != 13 && b64char v != 10) = true := by
  unfold b64char
  repeat' split
  all_goals simp <;> omega

theorem encode_filter (bs : Bytes) : (encode bs).filter (fun ch => ch != 13 && ch != 10) = encode bs := by
  fun_induction encode bs with
  | case1 => rfl
  | case2 a => simp [keep_b64char, pad]
  | case3 a b => simp [keep_b64char, pad]
  | case4 a b c rest ih => simp [keep_b64char, ih]

theorem decodeClean_step (c0 c1 c2 c3 v0 v1 v2 v3 : Nat) (rest : Bytes)
    (h0 : b64val c0 = some v0) (h1 : b64val c1 = some v1) (h2 : b64val c2 = some v2) (h3 : b64val c3 = some v3) :
    decodeClean (c0 :: c1 :: c2 :: c3 :: rest) = (decodeClean rest).map (fun t =>
        (v0 * 4 + v1 / 16) % 256 :: ((v1 % 16) * 16 + v2 / 4) % 256 :: ((v2 % 4) * 64 + v3) % 256 :: t) := by
  cases rest with
  -- four characters and nothing more are matched by the clause for a last, possibly padded group
  | nil => simp [decodeClean, h0, h1, h2, h3, ne_pad_of_b64val h2, ne_pad_of_b64val h3]
  | cons x xs => simp [decodeClean, h0, h1, h2, h3]

theorem decodeClean_encode (bs : Bytes) (h : WFBytes bs) : decodeClean (encode bs) = some bs := by
  -- Each group decodes to alphabet values by `b64val_b64char`; what is left for `omega` is that the sextets
  -- v0 = a / 4, v1 = a % 4 * 16 + b / 16, v2 = b % 16 * 4 + c / 64, v3 = c % 64 of bytes a, b, c < 256 recombine:
  --   (v0 * 4 + v1 / 16) % 256 = a,  (v1 % 16 * 16 + v2 / 4) % 256 = b,  (v2 % 4 * 64 + v3) % 256 = c
  -- (in a last group of one or two bytes with b / 16, c / 64 left out).
  fun_induction encode bs with
  | case1 => simp [decodeClean]
  | case2 a =>
    have ha : a < 256 := h a (by simp)
    simp only [decodeClean]
    rw [b64val_b64char _ (by omega), b64val_b64char _ (by omega)]
    simp
    omega
  | case3 a b =>
    have ha : a < 256 := h a (by simp)
    have hb : b < 256 := h b (by simp)
    simp only [decodeClean]
    rw [b64val_b64char _ (by omega), b64val_b64char _ (by omega)]
    have := ne_pad_of_b64val (b64val_b64char (b % 16 * 4) (by omega))
    simp [this]
    rw [b64val_b64char _ (by omega)]
    simp
    omega
  | case4 a b c rest ih =>
    have ha : a < 256 := h a (by simp)
    have hb : b < 256 := h b (by simp)
    have hc : c < 256 := h c (by simp)
    have hr : WFBytes rest := fun x hx => h x (by simp [hx])
    rw [decodeClean_step _ _ _ _ _ _ _ _ _ (b64val_b64char _ (by omega)) (b64val_b64char _ (by omega))
      (b64val_b64char _ (by omega)) (b64val_b64char _ (by omega)), ih hr]
    simp
    omega

theorem decode_encode (bs : Bytes) (h : WFBytes bs) : decode (encode bs) = some bs := by
  unfold decode
  rw [encode_filter]
  exact decodeClean_encode bs h

theorem tokenStage_api_or_401 (cfg : Cfg) (fields : List Bytes) (a : Bool) :
    tokenStage cfg fields a = .api ∨ tokenStage cfg fields a = .unauthorized := by
  unfold tokenStage
  repeat' split
  all_goals simp

theorem tokenStage_false_api (cfg : Cfg) (hdr : Bytes) (h : tokenStage cfg (splitSpace hdr) false = .api) :
    cfg.token = none ∨ ∃ t, cfg.token = some t ∧ t ≠ [] ∧ field1 hdr = some t := by
  unfold tokenStage at h
  split at h
  · left; assumption
  · rename_i t ht
    right
    refine ⟨t, ht, ?_⟩
    simp only [Bool.false_eq_true, if_false] at h
    unfold field1
    split at h
    · rename_i f0 f1 fs hf
      split at h
      · cases h
      · split at h
        · subst_vars; simp_all
        · cases h
    · cases h

theorem authChain_sound (cfg : Cfg) (hdr : Bytes) (h : authChain cfg hdr = .api) :
    (cfg.basic = none ∧ cfg.token = none) ∨
    (∃ u p, cfg.basic = some (u, p) ∧ parseBasic hdr = some (u, p)) ∨
    (∃ t, cfg.token = some t ∧ t ≠ [] ∧ field1 hdr = some t) := by
  unfold authChain at h
  simp only at h
  split at h
  · rename_i hb
    rcases tokenStage_false_api cfg hdr h with h1 | h1
    · left; exact ⟨hb, h1⟩
    · right; right; exact h1
  · rename_i u p hb
    split at h
    · rename_i hc
      rcases tokenStage_false_api cfg hdr h with h1 | h1
      · rw [h1] at hc; simp at hc
      · right; right; exact h1
    · split at h
      · cases h
      · rename_i u' p' hp
        split at h
        · rename_i he
          right; left
          refine ⟨u, p, hb, ?_⟩
          rw [hp, he.1, he.2]
        · cases h

theorem isPrefixOf_eq (p s : Bytes) (h : isPrefixOf p s = true) : s = p ++ s.drop p.length := by
  unfold isPrefixOf at h
  have : s.take p.length = p := by simpa using h
  conv => lhs; rw [← List.take_append_drop p.length s, this]

theorem decide_api_path (cfg : Cfg) (path hdr : Bytes) (h : decide cfg path hdr = .api) :
    authChain cfg hdr = .api ∧ ∃ p, isPrefixOf apiPrefix p = true ∧ path = cfg.basePath ++ p := by
  unfold decide at h
  split at h
  · cases h
  · simp only at h
    split at h
    · cases h
    · rename_i p hp
      split at h
      · rename_i hpre
        refine ⟨h, p, hpre, ?_⟩
        split at hp
        · rename_i he
          simp at hp
          rw [he, hp]; rfl
        · split at hp
          · rename_i hpp
            simp at hp
            rw [← hp]; exact isPrefixOf_eq _ _ hpp
          · cases hp
      · cases h

theorem splitSpace_nospace (a : Bytes) (h : (32 : Nat) ∉ a) : splitSpace a = [a] := by
  induction a with
  | nil => simp [splitSpace]
  | cons x xs ih =>
    simp only [List.mem_cons, not_or] at h
    have hx : x ≠ 32 := fun e => h.1 e.symm
    simp [splitSpace, hx, ih h.2]

theorem splitSpace_append (a b : Bytes) (h : (32 : Nat) ∉ a) :
    splitSpace (a ++ 32 :: b) = a :: splitSpace b := by
  induction a with
  | nil => simp [splitSpace]
  | cons x xs ih =>
    simp only [List.mem_cons, not_or] at h
    have hx : x ≠ 32 := fun e => h.1 e.symm
    simp [splitSpace, hx, ih h.2]

theorem cutColon_append (u p : Bytes) (h : (58 : Nat) ∉ u) : cutColon (u ++ 58 :: p) = some (u, p) := by
  induction u with
  | nil => simp [cutColon]
  | cons x xs ih =>
    simp only [List.mem_cons, not_or] at h
    have hx : x ≠ 58 := fun e => h.1 e.symm
    simp [cutColon, hx, ih h.2]

theorem tokenStage_authed (cfg : Cfg) (fields : List Bytes) : tokenStage cfg fields true = .api := by
  unfold tokenStage; split <;> simp

theorem parseBasic_encode (u p : Bytes) (hu : WFBytes u) (hp : WFBytes p) (hc : (58 : Nat) ∉ u) :
    parseBasic (basicPrefix ++ encode (u ++ [58] ++ p)) = some (u, p) := by
  have hwf : WFBytes (u ++ [58] ++ p) :=
    List.forall_mem_append.2 ⟨List.forall_mem_append.2 ⟨hu, by simp⟩, hp⟩
  unfold parseBasic
  have hlen : ¬ (basicPrefix ++ encode (u ++ [58] ++ p)).length < 6 := by
    simp [basicPrefix]
  have htake : (basicPrefix ++ encode (u ++ [58] ++ p)).take 6 = basicPrefix := by
    simp [basicPrefix]
  have hdrop : (basicPrefix ++ encode (u ++ [58] ++ p)).drop 6 = encode (u ++ [58] ++ p) := by
    simp [basicPrefix]
  rw [if_neg hlen, htake, hdrop, decode_encode _ hwf]
  simp only [bne_self_eq_false, Bool.false_eq_true, if_false]
  rw [List.append_assoc, List.singleton_append, cutColon_append _ _ hc]

end BdModel.Auth

#print axioms BdModel.Auth.decode_encode
#print axioms BdModel.Auth.authChain_sound
#print axioms BdModel.Auth.decide_api_path
