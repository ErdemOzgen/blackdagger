import BdModel.Log.Writers
/-
  For C12: what a writer holds on disk and in its buffer together (`BW.total`) grows by exactly the bytes it is handed,
  however they are cut into chunks; the teardown of an attempt is never skipped, so all of it reaches the file.
-/
namespace BdModel.Log

/-- everything handed to the writer so far -/
def BW.total (w : BW) : Bytes := w.disk ++ w.buf

theorem write_total (w : BW) (p : Bytes) : (w.write p).total = w.total ++ p := by
  unfold BW.write BW.total
  split
  · simp
  · split
    · next h => simp [h]
    · simp only []
      split
      · simp [List.append_assoc, List.take_append_drop]
      · simp [List.append_assoc, List.take_append_drop]

theorem write_buf_le (w : BW) (p : Bytes) (h : w.buf.length ≤ cap) : (w.write p).buf.length ≤ cap := by
  unfold BW.write
  split
  · next h1 => simp; omega
  · split
    · next h2 => simp [h2]
    · simp only []
      split
      · next h3 => simpa using h3
      · simp

theorem direct_total (w : BW) (p : Bytes) : (w.direct p).total = w.total ++ p := by
  simp [BW.direct, BW.total]

theorem direct_buf (w : BW) (p : Bytes) : (w.direct p).buf = [] := rfl

theorem flatMap_filter {α β : Type} (p : α → Bool) (f : α → List β) (l : List α) :
    (l.filter p).flatMap f = l.flatMap (fun x => if p x then f x else []) := by
  induction l with
  | nil => rfl
  | cons x l ih => cases h : p x <;> simp [h, ih]

theorem toStdout_eq (c : Cfg) (s : St) (p : Bytes) :
    toStdout c s p = { s with log := if c.buffered then s.log.write p else s.log.direct p
                              out := if c.stdoutFile then s.out.write p else s.out
                              pipe := if c.output then s.pipe ++ p else s.pipe } := by
  unfold toStdout
  cases c.buffered <;> cases c.stdoutFile <;> cases c.output <;> rfl

theorem feed_log_total (c : Cfg) (s : St) (ch : Chunk) :
    (feed c s ch).log.total = s.log.total ++ (if !(ch.1 && c.stderrFile) then ch.2 else []) := by
  unfold feed
  split
  · next h => simp [h]
  · next h =>
    simp only [toStdout_eq, h]
    split
    · exact write_total _ _
    · exact direct_total _ _

theorem feed_out_total (c : Cfg) (s : St) (ch : Chunk) (hc : c.stdoutFile = true) :
    (feed c s ch).out.total = s.out.total ++ (if !(ch.1 && c.stderrFile) then ch.2 else []) := by
  unfold feed
  split
  · next h => simp [h]
  · next h =>
    simp only [toStdout_eq, hc, h]
    exact write_total _ _

theorem feed_err_total (c : Cfg) (s : St) (ch : Chunk) (hc : c.stderrFile = true) :
    (feed c s ch).err.total = s.err.total ++ (if ch.1 then ch.2 else []) := by
  unfold feed
  rw [hc, Bool.and_true]
  split
  · exact direct_total _ _
  · simp [toStdout_eq]

theorem feed_done_left_errBuf (c : Cfg) (s : St) (ch : Chunk) :
    (feed c s ch).done = s.done ∧ (feed c s ch).left = s.left ∧ (s.err.buf = [] → (feed c s ch).err.buf = []) := by
  unfold feed
  split
  · exact ⟨rfl, rfl, fun _ => rfl⟩
  · rw [toStdout_eq]; exact ⟨rfl, rfl, id⟩

theorem exec_ind (c : Cfg) {P : St → Prop} (h : ∀ s ch, P s → P (feed c s ch)) (a : Attempt) (s : St) (h0 : P s) :
    P (exec c s a) := by
  induction a generalizing s with
  | nil => exact h0
  | cons ch r ih => exact ih _ (h s ch h0)

theorem exec_total (c : Cfg) (f : St → BW) (part : Chunk → Bytes)
    (h : ∀ s ch, (f (feed c s ch)).total = (f s).total ++ part ch) (a : Attempt) (s : St) :
    (f (exec c s a)).total = (f s).total ++ a.flatMap part := by
  induction a generalizing s with
  | nil => simp [exec]
  | cons ch r ih =>
    show (f (exec c (feed c s ch) r)).total = _
    rw [ih, h, List.flatMap_cons, List.append_assoc]

theorem exec_done (c : Cfg) (s : St) (a : Attempt) : (exec c s a).done = s.done :=
  exec_ind c (P := fun t => t.done = s.done) (fun t ch ht => by obtain ⟨hdone, -, -⟩ := feed_done_left_errBuf c t ch; rw [hdone, ht]) a s rfl

/-- an attempt ends with a teardown that is not skipped (setup reset `done`, and no chunk sets it): it flushes the log and
    the `stdout:` writer and removes the script -/
theorem attempt_eq (c : Cfg) (s : St) (a : Attempt) :
    attempt c s a =
      { exec c (setup c s) a with
        done := true
        log := (exec c (setup c s) a).log.flush
        out := (exec c (setup c s) a).out.flush
        script := false } := by
  have hd : (exec c (setup c s) a).done = false := exec_done c _ a
  unfold attempt teardown
  rw [if_neg (by simp [hd])]

theorem attempt_ok (c : Cfg) (s : St) (a : Attempt) :
    (attempt c s a).log.disk = logBytes c a ∧
    (c.stdoutFile = true → (attempt c s a).out.disk = s.out.disk ++ sinkBytes c a) ∧
    (c.stderrFile = true → (attempt c s a).err.disk = s.err.disk ++ errBytes a) := by
  rw [attempt_eq]
  refine ⟨?_, fun hc => ?_, fun hc => ?_⟩
  · show (exec c (setup c s) a).log.total = _
    rw [exec_total c St.log _ (feed_log_total c) a, logBytes, flatMap_filter]; rfl
  · show (exec c (setup c s) a).out.total = _
    rw [exec_total c St.out _ (fun t ch => feed_out_total c t ch hc) a, sinkBytes, logBytes, flatMap_filter]
    simp [setup, hc, BW.reopen, BW.total]
  · -- the `stderr:` writer is never flushed, and never holds anything
    have hb : (exec c (setup c s) a).err.buf = [] :=
      exec_ind c (P := fun t => t.err.buf = []) (fun t ch => let ⟨_, _, hbuf⟩ := feed_done_left_errBuf c t ch; hbuf) a _
        (by simp [setup, hc, BW.reopen])
    have ht := exec_total c St.err _ (fun t ch => feed_err_total c t ch hc) a (setup c s)
    rw [BW.total, hb, List.append_nil] at ht
    rw [errBytes, flatMap_filter, ht]
    simp [setup, hc, BW.reopen, BW.total]

theorem run_snoc (c : Cfg) (as : List Attempt) (a : Attempt) :
    run c (as ++ [a]) = attempt c (run c as) a := by
  simp [run, List.foldl_append]

theorem attempt_bufs (c : Cfg) (s : St) (a : Attempt) :
    (attempt c s a).log.buf = [] ∧ (c.stdoutFile = true → (attempt c s a).out.buf = []) := by
  rw [attempt_eq]
  exact ⟨rfl, fun _ => rfl⟩

theorem attempt_scriptsLeft (c : Cfg) (s : St) (a : Attempt) : (attempt c s a).scriptsLeft = s.scriptsLeft := by
  have hl : (exec c (setup c s) a).left = s.scriptsLeft :=
    exec_ind c (P := fun t => t.left = s.scriptsLeft)
      (fun t ch ht => by obtain ⟨-, hleft, -⟩ := feed_done_left_errBuf c t ch; rw [hleft, ht]) a _ rfl
  rw [attempt_eq]
  simp [St.scriptsLeft, hl]

end BdModel.Log
