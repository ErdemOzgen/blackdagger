import BdModel.Sched.Cycle
import Mathlib.Logic.Relation
import Mathlib.Data.Fintype.Card
/-
  Lemmas for C14: the loop invariant of `hasCycle` (Kahn's elimination) and name resolution.
  Mathlib is used for two things only: `Relation.TransGen` / `ReflTransGen` (Mathlib.Logic.Relation) and
  `Finite.wellFounded_of_trans_of_irrefl` in `acyclic_induction` (Mathlib.Data.Fintype.Card).
-/
namespace BdModel.Cycle

def Rel (es : List (Nat × Nat)) (a b : Nat) : Prop := (a, b) ∈ es

open Relation

/-- number of edges into `v` whose source is not in `P` (with multiplicity) -/
def cnt (es : List (Nat × Nat)) (P : List Nat) (v : Nat) : Nat :=
  es.countP (fun e => decide (e.2 = v ∧ e.1 ∉ P))

theorem cnt_nil (es : List (Nat × Nat)) (v : Nat) : cnt es [] v = indeg es v := by
  unfold cnt indeg
  congr 1
  funext e
  cases h : (e.2 == v) <;> simp_all

theorem cnt_eq_zero {es : List (Nat × Nat)} {P : List Nat} {v : Nat} :
    cnt es P v = 0 ↔ ∀ a, (a, v) ∈ es → a ∈ P := by
  unfold cnt
  rw [List.countP_eq_zero]
  constructor
  · intro h a ha
    have := h (a, v) ha
    simpa using this
  · rintro h ⟨a, b⟩ hab
    simp only [decide_eq_true_eq, not_and, Decidable.not_not]
    rintro rfl
    exact h a hab

theorem indeg_eq_zero {es : List (Nat × Nat)} {v : Nat} : indeg es v = 0 ↔ ∀ a, (a, v) ∉ es := by
  rw [← cnt_nil, cnt_eq_zero]
  simp

theorem mem_succs {es : List (Nat × Nat)} {f t : Nat} : t ∈ succs es f ↔ (f, t) ∈ es := by
  unfold succs
  simp only [List.mem_map, List.mem_filter, beq_iff_eq]
  constructor
  · rintro ⟨⟨a, b⟩, ⟨hab, rfl⟩, rfl⟩
    exact hab
  · intro h
    exact ⟨(f, t), ⟨h, rfl⟩, rfl⟩

theorem count_succs (es : List (Nat × Nat)) (f v : Nat) :
    (succs es f).count v = es.countP (fun e => decide (e.2 = v ∧ e.1 = f)) := by
  unfold succs
  rw [List.count_eq_countP, List.countP_map, List.countP_filter]
  exact List.countP_congr fun e _ => by simp

theorem cnt_snoc (es : List (Nat × Nat)) (P : List Nat) (f v : Nat) (hf : f ∉ P) :
    cnt es P v = cnt es (P ++ [f]) v + (succs es f).count v := by
  unfold cnt
  rw [count_succs, List.countP_eq_countP_filter_add es _ (fun e => e.1 != f), List.countP_filter,
    List.countP_filter]
  congr 1
  · refine List.countP_congr fun e _ => ?_
    by_cases h : e.1 = f <;> simp [h]
  · refine List.countP_congr fun e _ => ?_
    by_cases h : e.1 = f <;> simp [h, hf]

/-- The invariant of `hasCycle`'s two loops. `P` (not in the code) lists the nodes popped so far, in order;
    `q` is the queue, `ts` the successors of the node just popped that the inner loop has still to visit.
    `degEq`: a degree counts the edges from nodes not yet popped, plus the visits still to come;
    `zero`: exactly the unpopped nodes of degree 0 are queued; `acyc`, `closed`: the popped nodes lie on no
    cycle and contain their predecessors. With `q = ts = []` this decides cyclicity (`hasCycle_iff`). -/
structure RInv (n : Nat) (es : List (Nat × Nat)) (P : List Nat) (deg : Nat → Nat)
    (q ts : List Nat) : Prop where
  nodup : (P ++ q).Nodup
  lt : ∀ v ∈ P ++ q, v < n
  degEq : ∀ v, deg v = cnt es P v + ts.count v
  zero : ∀ v, v < n → v ∉ P → (deg v = 0 ↔ v ∈ q)
  acyc : ∀ v ∈ P, ¬ TransGen (Rel es) v v
  closed : ∀ a b, (a, b) ∈ es → b ∈ P → a ∈ P
  tsOK : ∀ t ∈ ts, t < n ∧ t ∉ P

theorem mem_seed {n : Nat} {es : List (Nat × Nat)} {v : Nat} :
    v ∈ seed n es ↔ v < n ∧ indeg es v = 0 := by
  simp [seed]

theorem RInv.init (n : Nat) (es : List (Nat × Nat)) :
    RInv n es [] (indeg es) (seed n es) [] where
  nodup := List.Nodup.filter _ List.nodup_range
  lt v hv := (mem_seed.1 hv).1
  degEq v := (cnt_nil es v).symm
  zero v hv _ := by rw [mem_seed, and_iff_right hv]
  acyc _ hv := nomatch hv
  closed _ _ _ hb := nomatch hb
  tsOK _ ht := nomatch ht

theorem upd_self (f : Nat → Nat) (i v : Nat) : upd f i v i = v := if_pos rfl

theorem upd_of_ne (f : Nat → Nat) (v : Nat) {i j : Nat} (h : j ≠ i) : upd f i v j = f j := if_neg h

theorem RInv.relax {n : Nat} {es : List (Nat × Nat)} {P : List Nat} :
    ∀ (ts : List Nat) (deg : Nat → Nat) (q : List Nat), RInv n es P deg q ts →
      RInv n es P (relax deg q ts).1 (relax deg q ts).2 []
  | [], _, _, h => h
  | t :: ts, deg, q, h => by
    refine RInv.relax ts _ _ ?_
    obtain ⟨htn, htP⟩ := h.tsOK t List.mem_cons_self
    have hdt : deg t = cnt es P t + ts.count t + 1 := by
      rw [h.degEq t, List.count_cons_self, Nat.add_assoc]
    have htq : t ∉ q := fun hq => Nat.succ_ne_zero _ (hdt.symm.trans ((h.zero t htn htP).2 hq))
    have hdeg : ∀ v, upd deg t (deg t - 1) v = cnt es P v + ts.count v := by
      intro v
      by_cases hv : v = t
      · rw [hv, upd_self, hdt, Nat.add_sub_cancel]
      · rw [upd_of_ne _ _ hv, h.degEq v, List.count_cons_of_ne (Ne.symm hv)]
    have hts : ∀ t' ∈ ts, t' < n ∧ t' ∉ P := fun t' ht' => h.tsOK t' (List.mem_cons_of_mem _ ht')
    rw [upd_self]
    by_cases h0 : deg t - 1 = 0
    · -- the last edge into `t` from a popped node has been counted: `t` is queued
      rw [if_pos h0]
      refine ⟨?_, ?_, hdeg, ?_, h.acyc, h.closed, hts⟩
      · rw [← List.append_assoc, ← List.concat_eq_append]
        exact h.nodup.concat fun ht => (List.mem_append.1 ht).elim htP htq
      · intro v hv
        rw [← List.append_assoc] at hv
        rcases List.mem_append.1 hv with hv | hv
        · exact h.lt v hv
        · rw [List.mem_singleton.1 hv]
          exact htn
      · intro v hvn hvP
        by_cases hv : v = t
        · rw [hv, upd_self]
          exact iff_of_true h0 (List.mem_append_right _ (List.mem_singleton_self t))
        · rw [upd_of_ne _ _ hv, h.zero v hvn hvP, List.mem_append, List.mem_singleton, or_iff_left hv]
    · rw [if_neg h0]
      refine ⟨h.nodup, h.lt, hdeg, ?_, h.acyc, h.closed, hts⟩
      intro v hvn hvP
      by_cases hv : v = t
      · rw [hv, upd_self]
        exact iff_of_false h0 htq
      · rw [upd_of_ne _ _ hv]
        exact h.zero v hvn hvP

theorem RInv.deg_eq_zero {n : Nat} {es : List (Nat × Nat)} {P : List Nat} {deg : Nat → Nat} {q : List Nat}
    (h : RInv n es P deg q []) (v : Nat) : deg v = 0 ↔ ∀ a, (a, v) ∈ es → a ∈ P := by
  rw [h.degEq v, List.count_nil, Nat.add_zero, cnt_eq_zero]

theorem RInv.pop {n : Nat} {es : List (Nat × Nat)} {P : List Nat} {deg : Nat → Nat}
    {f : Nat} {q : List Nat} (hE : ∀ e ∈ es, e.1 < n ∧ e.2 < n)
    (h : RInv n es P deg (f :: q) []) : RInv n es (P ++ [f]) deg q (succs es f) := by
  have hfP : f ∉ P := fun hf =>
    (List.nodup_cons.1 (List.nodup_middle.1 h.nodup)).1 (List.mem_append_left _ hf)
  have hfn : f < n := h.lt f (by simp)
  have hdf : deg f = 0 := (h.zero f hfn hfP).2 List.mem_cons_self
  have hpred : ∀ a, (a, f) ∈ es → a ∈ P := (h.deg_eq_zero f).1 hdf
  have hmem : ∀ v, v ∈ P ++ [f] ↔ v ∈ P ∨ v = f := fun v => by simp
  constructor
  · rw [List.append_assoc, List.singleton_append]
    exact h.nodup
  · rw [List.append_assoc, List.singleton_append]
    exact h.lt
  · intro v
    rw [h.degEq v, cnt_snoc es P f v hfP, List.count_nil, Nat.add_zero]
  · intro v hvn hvP
    rw [hmem, not_or] at hvP
    rw [h.zero v hvn hvP.1, List.mem_cons, or_iff_right hvP.2]
  · intro v hv
    rcases (hmem v).1 hv with hv | rfl
    · exact h.acyc v hv
    · -- a cycle through `v` enters it from an eliminated node, which would lie on the cycle too
      intro hc
      obtain ⟨a, hva, hav⟩ := TransGen.tail'_iff.1 hc
      exact h.acyc a (hpred a hav) (TransGen.head' hav hva)
  · intro a b hab hb
    rw [hmem]
    rcases (hmem b).1 hb with hb | rfl
    · exact Or.inl (h.closed a b hab hb)
    · exact Or.inl (hpred a hab)
  · intro t ht
    have hft := mem_succs.1 ht
    refine ⟨(hE _ hft).2, fun htP => hfP ?_⟩
    rcases (hmem t).1 htP with htP | rfl
    · exact h.closed f t hft htP
    · exact hpred t hft

theorem length_le_of_nodup_lt {l : List Nat} {n : Nat} (hnd : l.Nodup) (hlt : ∀ x ∈ l, x < n) :
    l.length ≤ n := by
  simpa using hnd.length_le_of_subset fun x hx => List.mem_range.2 (hlt x hx)

theorem RInv.length_le {n : Nat} {es : List (Nat × Nat)} {P : List Nat} {deg : Nat → Nat}
    {q ts : List Nat} (h : RInv n es P deg q ts) : P.length + q.length ≤ n := by
  simpa using length_le_of_nodup_lt h.nodup h.lt

/-- the outer loop; each round pops one node and `P.length + q.length ≤ n` (`RInv.length_le`), so the fuel
    lasts if `n + 1 ≤ fuel + P.length` -/
theorem RInv.kahn {n : Nat} {es : List (Nat × Nat)} (hE : ∀ e ∈ es, e.1 < n ∧ e.2 < n) (fuel : Nat) :
    ∀ (P : List Nat) (deg : Nat → Nat) (q : List Nat), RInv n es P deg q [] →
      n + 1 ≤ fuel + P.length →
      ∃ P', RInv n es P' (kahn es fuel deg q).1 [] [] ∧ (kahn es fuel deg q).2 = [] := by
  induction fuel with
  | zero =>
    intro P deg q h hl
    have := h.length_le
    omega
  | succ fuel ih =>
    intro P deg q h hl
    cases q with
    | nil => exact ⟨P, h, rfl⟩
    | cons f q =>
      refine ih (P ++ [f]) _ _ (h.pop hE).relax ?_
      rw [List.length_append, List.length_singleton]
      omega

theorem kahn_final {n : Nat} {es : List (Nat × Nat)} (hE : ∀ e ∈ es, e.1 < n ∧ e.2 < n) :
    ∃ P, RInv n es P (kahn es (n + 1) (indeg es) (seed n es)).1 [] [] ∧
      (kahn es (n + 1) (indeg es) (seed n es)).2 = [] :=
  RInv.kahn hE (n + 1) [] _ _ (RInv.init n es) (by simp)

theorem RInv.final_pos {n : Nat} {es : List (Nat × Nat)} {P : List Nat} {deg : Nat → Nat}
    (h : RInv n es P deg [] []) (v : Nat) (hv : v < n) : 0 < deg v ↔ v ∉ P := by
  constructor
  · intro hpos hvP
    exact Nat.ne_of_gt hpos ((h.deg_eq_zero v).2 fun a ha => h.closed a v ha hvP)
  · intro hvP
    exact Nat.pos_of_ne_zero fun h0 => List.not_mem_nil ((h.zero v hv hvP).1 h0)

theorem acyclic_induction {n : Nat} {es : List (Nat × Nat)} (hE : ∀ e ∈ es, e.1 < n ∧ e.2 < n)
    (hA : ¬ ∃ v, TransGen (Rel es) v v) {C : Nat → Prop}
    (ih : ∀ v, v < n → (∀ a, (a, v) ∈ es → C a) → C v) (v : Nat) (hv : v < n) : C v := by
  let r : Fin n → Fin n → Prop := fun a b => TransGen (Rel es) a.1 b.1
  -- by hand: the two imported modules do not bring the instance
  have : Finite (Fin n) := Finite.intro (Equiv.refl _)
  have : IsTrans (Fin n) r := ⟨fun _ _ _ hab hbc => TransGen.trans hab hbc⟩
  have : Std.Irrefl r := ⟨fun a ha => hA ⟨a.1, ha⟩⟩
  have hwf : WellFounded r := Finite.wellFounded_of_trans_of_irrefl r
  have key : ∀ m : Fin n, C m.1 := fun m =>
    hwf.induction m fun m hm => ih m.1 m.2 fun a ha => hm ⟨a, (hE _ ha).1⟩ (TransGen.single ha)
  exact key ⟨v, hv⟩

theorem hasCycle_iff (n : Nat) (es : List (Nat × Nat))
    (h : ∀ e ∈ es, e.1 < n ∧ e.2 < n) :
    hasCycle n es = true ↔ ∃ v, Relation.TransGen (Rel es) v v := by
  obtain ⟨P, hI, _⟩ := kahn_final h
  have hiff : hasCycle n es = true ↔ ∃ v, v < n ∧ v ∉ P := by
    unfold hasCycle
    simp only [List.any_eq_true, List.mem_range, decide_eq_true_eq]
    exact exists_congr fun v => and_congr_right (hI.final_pos v)
  rw [hiff]
  constructor
  · rintro ⟨v, hvn, hvP⟩
    apply Classical.byContradiction
    intro hA
    -- without a cycle every node is eliminated: one whose predecessors all are has degree 0
    refine hvP (acyclic_induction h hA (fun w hwn ih => ?_) v hvn)
    apply Classical.byContradiction
    intro hwP
    exact Nat.ne_of_gt ((hI.final_pos w hwn).2 hwP) ((hI.deg_eq_zero w).2 ih)
  · rintro ⟨v, hv⟩
    obtain ⟨b, hvb, _⟩ := TransGen.head'_iff.1 hv
    exact ⟨v, (h _ hvb).1, fun hvP => hI.acyc v hvP hv⟩

theorem mapM_option_none {α β} (f : α → Option β) (l : List α) :
    l.mapM f = none ↔ ∃ a ∈ l, f a = none := by
  induction l with
  | nil => simp
  | cons a l ih =>
    rw [List.mapM_cons]
    simp only [List.mem_cons, exists_eq_or_imp, ← ih]
    cases f a <;> cases l.mapM f <;> simp

theorem mapM_option_some_mem {α β} (f : α → Option β) (l : List α) :
    ∀ r : List β, l.mapM f = some r → ∀ b, b ∈ r ↔ ∃ a ∈ l, f a = some b := by
  induction l with
  | nil =>
    intro r h b
    cases h
    simp
  | cons a l ih =>
    intro r h b
    rw [List.mapM_cons] at h
    simp only [Option.bind_eq_bind, Option.pure_def, Option.bind_eq_some_iff] at h
    obtain ⟨b', hfa, r', hl, hr⟩ := h
    cases hr
    simp only [List.mem_cons, exists_eq_or_imp, ih r' hl, hfa, Option.some.injEq]
    exact or_congr_left eq_comm

theorem mem_depPairs {α} (steps : List (Step α)) (d : α) (i : Nat) :
    (d, i) ∈ depPairs steps ↔ ∃ s, steps[i]? = some s ∧ d ∈ s.depends := by
  unfold depPairs
  simp only [List.mem_flatMap, List.mem_map, Prod.mk.injEq, Prod.exists,
    List.mem_zipIdx_iff_getElem?]
  constructor
  · rintro ⟨s, k, hs, d', hd', rfl, rfl⟩
    exact ⟨s, hs, hd'⟩
  · rintro ⟨s, hs, hd⟩
    exact ⟨s, i, hs, d, hd, rfl, rfl⟩

theorem findStep_none {α} [DecidableEq α] (steps : List (Step α)) (d : α) :
    findStep steps d = none ↔ ∀ t ∈ steps, t.name ≠ d := by
  unfold findStep
  rw [List.findIdx?_eq_none_iff]
  simp

theorem findStep_some {α} [DecidableEq α] (steps : List (Step α))
    (hd : (steps.map (·.name)).Nodup) (d : α) (j : Nat) :
    findStep steps d = some j ↔ ∃ t, steps[j]? = some t ∧ t.name = d := by
  unfold findStep
  rw [List.findIdx?_eq_some_iff_getElem]
  constructor
  · rintro ⟨hj, hp, _⟩
    exact ⟨steps[j], List.getElem?_eq_getElem hj, by simpa using hp⟩
  · rintro ⟨t, ht, rfl⟩
    obtain ⟨hj, rfl⟩ := List.getElem?_eq_some_iff.1 ht
    refine ⟨hj, by simp, fun i hi => ?_⟩
    -- an earlier step of the same name would be a duplicate
    have := List.pairwise_iff_getElem.1 hd i j (by simp; omega) (by simpa using hj) hi
    simpa using this

theorem edgesOf_none {α} [DecidableEq α] (steps : List (Step α)) :
    edgesOf steps = none ↔ ∃ s ∈ steps, ∃ d ∈ s.depends, ∀ t ∈ steps, t.name ≠ d := by
  unfold edgesOf
  simp only [mapM_option_none, Option.map_eq_none_iff, findStep_none]
  constructor
  · rintro ⟨⟨d, i⟩, hp, hn⟩
    obtain ⟨s, hs, hds⟩ := (mem_depPairs steps d i).1 hp
    exact ⟨s, List.mem_of_getElem? hs, d, hds, hn⟩
  · rintro ⟨s, hs, d, hds, hn⟩
    obtain ⟨i, hi⟩ := List.mem_iff_getElem?.1 hs
    exact ⟨(d, i), (mem_depPairs steps d i).2 ⟨s, hi, hds⟩, hn⟩

theorem mem_edgesOf {α} [DecidableEq α] (steps : List (Step α))
    (hd : (steps.map (·.name)).Nodup) (es : List (Nat × Nat)) (h : edgesOf steps = some es)
    (j i : Nat) : (j, i) ∈ es ↔ DependsOn steps j i := by
  unfold edgesOf at h
  rw [mapM_option_some_mem _ _ _ h]
  unfold DependsOn
  constructor
  · rintro ⟨⟨d, k⟩, hp, hf⟩
    simp only [Option.map_eq_some_iff, Prod.mk.injEq] at hf
    obtain ⟨j', hj', rfl, rfl⟩ := hf
    obtain ⟨s, hs, hds⟩ := (mem_depPairs steps d k).1 hp
    obtain ⟨t, ht, htd⟩ := (findStep_some steps hd d j').1 hj'
    exact ⟨s, t, hs, ht, htd ▸ hds⟩
  · rintro ⟨s, t, hs, ht, hts⟩
    refine ⟨(t.name, i), (mem_depPairs steps t.name i).2 ⟨s, hs, hts⟩, ?_⟩
    rw [(findStep_some steps hd t.name j).2 ⟨t, ht, rfl⟩]
    rfl

end BdModel.Cycle
