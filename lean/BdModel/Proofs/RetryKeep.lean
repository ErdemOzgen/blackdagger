import BdModel.Proofs.Sched.Step
/- C10: a step whose recorded status is finished / skipped and that is not reset is never touched by the retry run -/
namespace BdModel.Sched

/-- step `i` is as recorded in `st`, has no worker, has executed nothing, and the loop is not about to launch it -/
def Frozen (st : Nat → NStatus) (i : Nat) (s : State) : Prop :=
  (s.nd i).execs = 0 ∧ (s.nd i).status = st i ∧ (s.nd i).pc = .idle ∧ s.loop ≠ .launching i

/-- Every move of a node needs a worker, an old worker still around, or the loop's attention to a
    step without a status — except a signal, which changes nothing in a node that is not `running`.
    So a step recorded finished / skipped with no worker stays as it is, from any start state. -/
theorem keep_inv_gen (c : Cfg) (st : Nat → NStatus) (i : Nat) (hk : st i = .success ∨ st i = .skipped)
    (s0 : State) (h0 : Frozen st i s0) :
    ∀ s, ReachFrom c s0 s → Frozen st i s := by
  intro s h
  induction h with
  | init => exact h0
  | @step s s' a _ hs ih =>
    obtain ⟨h1, h2, h3, h4⟩ := ih
    have hst : (s.nd i).status ≠ .none ∧ (s.nd i).status ≠ .running := by
      rw [h2]; rcases hk with h | h <;> simp [h]
    cases step_sound hs with
    | @node a j y e hm =>
      refine updN_cases (Q := fun y => y.execs = 0 ∧ y.status = st i ∧ y.pc = .idle ∧ _) ⟨h1, h2, h3, ?_⟩ ?_
      · exact fun h => h4 (Act.loopAfter_launching h)
      · rintro rfl
        refine ⟨?_, ?_, ?_, fun h => h4 (Act.loopAfter_launching h)⟩ <;> cases hm <;> simp_all
    | @decide j _ _ hn =>
      refine ⟨h1, h2, h3, ?_⟩
      rintro ⟨rfl⟩
      exact hst.1 hn
    | _ => exact ⟨h1, h2, h3, by simp_all⟩

end BdModel.Sched
