import BdModel.Load.Build
/-
  C13 on the model of the fixed loader. Every function of the builder gets one lemma `X_sat`: it does not panic (once
  `assertNoNullElements` has passed, where that matters) and what it returns satisfies a predicate (`Res.Sat`); `build_sat`
  is what C13 is read off. All statements are for arbitrary definitions / trees.
-/
namespace BdModel.Load

/-- `r` is not a panic, and a value it returns satisfies `P` -/
def Res.Sat {α} (P : α → Prop) : Res α → Prop
  | .ok a => P a
  | .err => True
  | .panic _ => False

/-- One step through a `match r with | .ok a => … | .err => .err | .panic s => .panic s` of the model: the scrutinee is
    abstracted from the goal (a lemma stated with a `match` of its own does not unify with the model's matchers), the
    error case is `trivial` and the proof goes on with the value. Where the next scrutinee depends on that value,
    `dsimp only` first reduces the `match` on `.ok a`. -/
@[elab_as_elim]
theorem Res.Sat.elim {α} {P : α → Prop} {r : Res α} {motive : Res α → Prop} (h : r.Sat P)
    (ok : ∀ a, P a → motive (.ok a)) (err : motive .err) : motive r := by
  cases r with
  | ok a => exact ok a h
  | err => exact err
  | panic s => exact False.elim h

theorem Res.Sat.not_panic {α} {P : α → Prop} {r : Res α} (h : r.Sat P) : r.isPanic = false :=
  h.elim (fun _ _ => rfl) rfl

/-! ### cron / schedule: no panic at all any more -/

theorem cronParse_sat (o : Orc) (s : Str) : (cronParse o s).Sat fun _ => o.cronOk s = true ∧ cronPanics s = false := by
  unfold cronParse
  split
  · trivial
  · rename_i hp
    split
    · rename_i hc
      exact ⟨hc, by simpa using hp⟩
    · trivial

theorem parseSchedules_sat (o : Orc) :
    ∀ l, (parseSchedules o l).Sat fun r => ∀ s ∈ r, o.cronOk s = true ∧ cronPanics s = false
  | [] => by simp [parseSchedules, Res.Sat]
  | v :: rest => by
    unfold parseSchedules
    refine (cronParse_sat o v).elim (fun _ hv => ?_) trivial
    refine (parseSchedules_sat o rest).elim (fun r hr => ?_) trivial
    exact List.forall_mem_cons.mpr ⟨hv, hr⟩

theorem addValues_sat (o : Orc) (tg : Target) : ∀ vs acc, (addValues o tg vs acc).Sat fun _ => True
  | [], _ => trivial
  | v :: rest, acc => by
    unfold addValues
    refine (cronParse_sat o v).elim (fun _ _ => ?_) trivial
    cases tg with
    | none => trivial
    | _ => exact addValues_sat o _ rest _

theorem parseScheduleMap_sat (o : Orc) : ∀ kvs acc, (parseScheduleMap o kvs acc).Sat fun _ => True
  | [], _ => trivial
  | (k, v) :: rest, acc => by
    unfold parseScheduleMap
    split
    · rename_i key
      dsimp only
      split
      · trivial
      · rename_i vs _
        split
        · trivial
        · exact (addValues_sat o (targetOf key) vs acc).elim (fun acc' _ => parseScheduleMap_sat o rest acc') trivial
    · trivial

theorem finishSchedule_sat (o : Orc) (sc : Sched) : (finishSchedule o sc).Sat fun sc =>
    ∀ e ∈ sc.starts ++ sc.stops ++ sc.restarts, o.cronOk e = true ∧ cronPanics e = false := by
  unfold finishSchedule
  refine (parseSchedules_sat o sc.starts).elim (fun a ha => ?_) trivial
  refine (parseSchedules_sat o sc.stops).elim (fun b hb => ?_) trivial
  refine (parseSchedules_sat o sc.restarts).elim (fun c hc => ?_) trivial
  exact List.forall_mem_append.2 ⟨List.forall_mem_append.2 ⟨ha, hb⟩, hc⟩

theorem buildSchedule_sat (o : Orc) (t : Tree) : (buildSchedule o t).Sat fun sc =>
    ∀ e ∈ sc.starts ++ sc.stops ++ sc.restarts, o.cronOk e = true ∧ cronPanics e = false := by
  have hc : (collectSchedule o t).Sat fun _ => True := by
    unfold collectSchedule
    split
    · trivial
    · split <;> trivial
    · exact parseScheduleMap_sat o _ _
    · trivial
    · trivial
  unfold buildSchedule
  exact hc.elim (fun sc _ => finishSchedule_sat o sc) trivial

/-! ### the stages that need `noNullElements`: each nil dereference of the builder sits behind one of its clauses -/

theorem buildConditions_sat : ∀ l, condsOk l = true → (buildConditions l).Sat fun _ => True
  | [], _ => trivial
  | none :: _, h => by simp [condsOk] at h
  | some c :: rest, h => by
    unfold buildConditions
    exact (buildConditions_sat rest (by simpa [condsOk] using h)).elim (fun _ _ => trivial) trivial

theorem findFunc_sat (site : Site) (name : Str) :
    ∀ fns : List (Option FuncDef), fns.all Option.isSome = true → (findFunc site name fns).Sat fun _ => True
  | [], _ => trivial
  | none :: _, h => by simp at h
  | some f :: rest, h => by
    unfold findFunc
    split
    · trivial
    · exact findFunc_sat site name rest (by simpa using h)

theorem assertStepDef_sat (d : StepDef) (fns : List (Option FuncDef)) (hf : fns.all Option.isSome = true) :
    (assertStepDef (some d) fns).Sat fun d' => d' = d ∧ d.name ≠ [] := by
  unfold assertStepDef
  dsimp only
  split
  · trivial
  · rename_i hn
    have hd : d = d ∧ d.name ≠ [] := ⟨rfl, fun e => hn (by simp [e])⟩
    split
    · trivial
    · split
      · exact hd
      · rename_i c _
        refine (findFunc_sat .assertStepDef c.function fns hf).elim (fun f? _ => ?_) trivial
        dsimp only
        split
        · trivial
        · split
          · trivial
          · split
            · exact hd
            · trivial

theorem parseFuncCall_sat (call : Option CallDef) (fns : List (Option FuncDef)) (hf : fns.all Option.isSome = true) :
    (parseFuncCall call fns).Sat fun _ => True := by
  unfold parseFuncCall
  split
  · trivial
  · rename_i c
    split
    · trivial
    · exact (findFunc_sat .parseFuncCall c.function fns hf).elim (fun _ _ => trivial) trivial

theorem parseCommand_sat (t : Tree) (cur : Str × Str) : (parseCommand t cur).Sat fun _ => True := by
  unfold parseCommand
  split <;> (try split) <;> trivial

theorem parseExecutor_sat (t : Tree) : (parseExecutor t).Sat fun ex => ex.config.all (fun kv => kv.2.jsonOk) = true := by
  unfold parseExecutor
  dsimp only
  split
  · trivial
  · split
    · rename_i hc
      exact hc
    · trivial

/-- what `buildStep` guarantees for the step it returns: per step, the clauses of the model's `Dag.wellFormedCore`
    (`named`, `signal`), `Dag.wellFormed` (`exec`) and `Dag.serialisable` (`serial`) -/
structure StepGood (o : Orc) (st : Step) : Prop where
  named : st.name ≠ []
  signal : st.signal = [] ∨ o.sigOk st.signal = true
  exec : st.hasExec = true
  serial : st.serial = true

theorem finishStep_sat (o : Orc) (st0 : Step) (sg : Option Str) (h0 : st0.signal = []) : (finishStep o st0 sg).Sat fun st =>
    st.name = st0.name ∧ st.config = st0.config ∧ (st.signal = [] ∨ o.sigOk st.signal = true) ∧ st.hasExec = true := by
  cases sg with
  | none =>
    simp only [finishStep]
    split
    · rename_i hx
      exact ⟨rfl, rfl, .inl h0, hx⟩
    · trivial
  | some g =>
    simp only [finishStep]
    split
    · rename_i hok
      split
      · rename_i hx
        exact ⟨rfl, rfl, .inr hok, by simpa [Step.hasExec, Step.effCommand] using hx⟩
      · trivial
    · trivial

theorem mkStep_props (d : StepDef) (cmd cwa : Str) (ex : Exec) (conds : List Cond) :
    (mkStep d cmd cwa ex conds).name = d.name ∧ (mkStep d cmd cwa ex conds).config = ex.config ∧
    (mkStep d cmd cwa ex conds).signal = [] := by
  unfold mkStep; split <;> exact ⟨rfl, rfl, rfl⟩

theorem buildStep_sat (o : Orc) (fns : List (Option FuncDef)) (sd : Option StepDef)
    (hf : fns.all Option.isSome = true) (hs : stepDefOk sd = true) : (buildStep o fns sd).Sat (StepGood o) := by
  cases sd with
  | none => simp [stepDefOk] at hs
  | some d0 =>
    unfold buildStep
    refine (assertStepDef_sat d0 fns hf).elim (fun d hd => ?_) trivial
    obtain ⟨rfl, hn⟩ := hd
    dsimp only
    refine (buildConditions_sat d.preconds hs).elim (fun conds _ => ?_) trivial
    refine (parseFuncCall_sat d.call fns hf).elim (fun cc _ => ?_) trivial
    dsimp only
    refine (parseCommand_sat d.command cc).elim (fun p _ => ?_) trivial
    obtain ⟨cmd, cwa⟩ := p
    refine (parseExecutor_sat d.executor).elim (fun ex hser => ?_) trivial
    dsimp only
    obtain ⟨hmname, hmconfig, hmsignal⟩ := mkStep_props d cmd cwa ex conds
    refine (finishStep_sat o _ d.signal hmsignal).elim (fun st h => ?_) trivial
    obtain ⟨hname, hconfig, hsig, hexec⟩ := h
    exact { named := by rw [hname, hmname]; exact hn, signal := hsig, exec := hexec,
            serial := by simpa [Step.serial, hconfig, hmconfig] using hser }

theorem buildSteps_sat (o : Orc) (fns : List (Option FuncDef)) (hf : fns.all Option.isSome = true) :
    ∀ l : List (Option StepDef), l.all stepDefOk = true → (buildSteps o fns l).Sat fun r => ∀ st ∈ r, StepGood o st
  | [], _ => by simp [buildSteps, Res.Sat]
  | sd :: rest, h => by
    simp only [List.all_cons, Bool.and_eq_true] at h
    unfold buildSteps
    refine (buildStep_sat o fns sd hf h.1).elim (fun st hst => ?_) trivial
    refine (buildSteps_sat o fns hf rest h.2).elim (fun r hr => ?_) trivial
    exact List.forall_mem_cons.mpr ⟨hst, hr⟩

theorem buildHandler_sat (o : Orc) (fns : List (Option FuncDef)) (name : Str) (h : Option StepDef)
    (hf : fns.all Option.isSome = true) (hh : handlerDefOk h = true) :
    (buildHandler o fns name h).Sat fun r => ∀ st ∈ r.toList, StepGood o st := by
  cases h with
  | none => simp [buildHandler, Res.Sat]
  | some d =>
    simp only [buildHandler]
    refine (buildStep_sat o fns (some { d with name := name }) hf hh).elim (fun st hst => ?_) trivial
    simpa [Res.Sat] using hst

-- `S` is sealed here: abstracting `buildHandler … (S "onExit") …` would otherwise compare the four handler names by
-- evaluating `String.toList` on the literals
attribute [local irreducible] S in
theorem buildHandlers_sat (o : Orc) (d : Def) (hf : d.functions.all Option.isSome = true)
    (h1 : handlerDefOk d.onExit = true) (h2 : handlerDefOk d.onSuccess = true)
    (h3 : handlerDefOk d.onFailure = true) (h4 : handlerDefOk d.onCancel = true) : (buildHandlers o d).Sat fun hs =>
      ∀ st ∈ hs.exit.toList ++ hs.success.toList ++ hs.failure.toList ++ hs.cancel.toList, StepGood o st := by
  unfold buildHandlers
  refine (buildHandler_sat o d.functions (S "onExit") d.onExit hf h1).elim (fun e pe => ?_) trivial
  refine (buildHandler_sat o d.functions (S "onSuccess") d.onSuccess hf h2).elim (fun s ps => ?_) trivial
  refine (buildHandler_sat o d.functions (S "onFailure") d.onFailure hf h3).elim (fun f pf => ?_) trivial
  refine (buildHandler_sat o d.functions (S "onCancel") d.onCancel hf h4).elim (fun c pc => ?_) trivial
  exact List.forall_mem_append.2 ⟨List.forall_mem_append.2 ⟨List.forall_mem_append.2 ⟨pe, ps⟩, pf⟩, pc⟩

theorem assertFunctionsAux_sat : ∀ (fns : List (Option FuncDef)) (seen : List Str), fns.all Option.isSome = true →
    (assertFunctionsAux fns seen).Sat fun _ => True
  | [], _, _ => trivial
  | none :: _, _, h => by simp at h
  | some f :: rest, seen, h => by
    unfold assertFunctionsAux
    split
    · trivial
    · split
      · trivial
      · exact assertFunctionsAux_sat rest _ (by simpa using h)

/-! ### stage summaries: `buildDef` looks at its stages through `Res.cls` and `firstPanic` -/

theorem Res.Sat.val {α} [Inhabited α] {P : α → Prop} {r : Res α} (h : r.Sat P) (hc : r.cls.isSome = false) : P r.val := by
  cases r with
  | ok a => exact h
  | err => cases hc
  | panic s => cases hc

theorem firstPanic_cons {α} {P : α → Prop} {r : Res α} (h : r.Sat P) (l : List (Option (Option Site))) :
    firstPanic (r.cls :: l) = firstPanic l :=
  h.elim (fun _ _ => rfl) rfl

theorem cls_not_panic {α} (r : Res α) (h : r.isPanic = false) : ∀ s, r.cls ≠ some (some s) := by
  cases r <;> simp [Res.cls, Res.isPanic] at h ⊢

/-- what `buildDef` guarantees for the DAG it returns: the clauses of `Dag.wellFormed` and `Dag.serialisable` -/
def DagGood (o : Orc) (g : Dag) : Prop :=
  (∀ s ∈ g.allSteps, StepGood o s) ∧ ∀ e ∈ g.starts ++ g.stops ++ g.restarts, o.cronOk e = true ∧ cronPanics e = false

/-- **no panic, and accepted ⇒ well-formed and serialisable**: behind `assertNoNullElements` no stage of the builder
    can panic; every step (handlers included) of an accepted DAG is named, has something to execute, a valid stop signal
    and a JSON-encodable executor config; every schedule parses — for EVERY definition -/
theorem buildDef_sat (o : Orc) (opts : Opts) (d : Def) : (buildDef o opts d).Sat (DagGood o) := by
  unfold buildDef
  split
  · trivial
  · rename_i hnn
    simp only [noNullElements, Bool.not_eq_true', Bool.not_eq_false, Bool.and_eq_true] at hnn
    obtain ⟨⟨⟨⟨⟨⟨hsteps, hfns⟩, hpre⟩, hExit⟩, hSuccess⟩, hFailure⟩, hCancel⟩ := hnn
    have s_env : (buildEnvs opts d.env).Sat fun _ => True := by
      unfold buildEnvs
      split <;> (try split) <;> trivial
    have s_sched := buildSchedule_sat o d.schedule
    have s_steps := buildSteps_sat o d.functions hfns d.steps hsteps
    have s_hs := buildHandlers_sat o d hfns hExit hSuccess hFailure hCancel
    have s_pre := buildConditions_sat d.preconds hpre
    have s_fns := assertFunctionsAux_sat d.functions [] hfns
    cases hm : opts.metadataOnly with
    | true =>
      simp only [stagesOf, hm, if_true, List.append_nil, firstPanic_cons s_env, firstPanic_cons s_sched, firstPanic]
      split
      · trivial
      · rename_i hany
        simp only [List.any_cons, List.any_nil, Bool.or_false, Bool.or_eq_true, not_or, Bool.not_eq_true] at hany
        obtain ⟨-, hsched⟩ := hany  -- the stages in the order of `stagesOf`: env, schedule
        exact ⟨by simp [assemble, hm, Dag.allSteps], by simpa [assemble, hm] using s_sched.val hsched⟩
    | false =>
      simp only [stagesOf, hm, Bool.false_eq_true, if_false, List.cons_append, List.nil_append, assertFunctions,
        firstPanic_cons s_env, firstPanic_cons s_sched, firstPanic_cons s_steps, firstPanic_cons s_hs,
        firstPanic_cons s_pre, firstPanic_cons s_fns, firstPanic]
      split
      · trivial
      · rename_i hany
        simp only [List.any_cons, List.any_nil, Bool.or_false, Bool.or_eq_true, not_or, Bool.not_eq_true] at hany
        -- the stages in the order of `stagesOf`: env, schedule, steps, handlers, preconditions, functions
        obtain ⟨-, hsched, hstepsOk, hhandlers, -, -⟩ := hany
        have g1 := s_steps.val hstepsOk
        have g2 := s_hs.val hhandlers
        refine ⟨?_, by simpa [assemble, hm] using s_sched.val hsched⟩
        simpa only [assemble, hm, Bool.false_eq_true, if_false, Dag.allSteps, List.append_assoc] using
          List.forall_mem_append.2 ⟨g1, g2⟩

theorem build_sat (o : Orc) (opts : Opts) (t : Tree) : (build o opts t).Sat (DagGood o) := by
  unfold build
  split
  · trivial
  · trivial
  · exact buildDef_sat o opts _

end BdModel.Load
