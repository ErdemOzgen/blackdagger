import BdModel.Params.Items
import BdModel.Params.Output
/-
  C11. Parameters: one match attempt of the tokenizer reads exactly one rendered item, so the
  tokenizer reads a rendered list item by item; the recorded text of a pair is the rendering of an item (`toItem`).
  Then the start path (quotes added by the client, removed by `start`) and output capture (trimming, the output map).
-/
namespace BdModel.Params

/-- what may follow an item: the end of the string or the separating space -/
def Sep (t : Str) : Prop := t = [] ∨ ∃ t', t = ' ' :: t'

theorem reSpace_quote : reSpace '"' = false := by decide
theorem nameCh_eq : nameCh '=' = false := by decide
theorem nameCh_sp : nameCh ' ' = false := by decide
theorem bareCh_sp : bareCh ' ' = false := by decide

theorem bareCh_ne_quote {c : Char} (h : bareCh c = true) : c ≠ '"' := by
  intro hc; subst hc; revert h; decide

theorem spanP_append (p : Char → Bool) (a t : Str) (ha : a.all p = true)
    (ht : ∀ c t', t = c :: t' → p c = false) : spanP p (a ++ t) = (a, t) := by
  induction a with
  | nil =>
    cases t with
    | nil => rfl
    | cons c t' => simp [spanP, ht c t' rfl]
  | cons c r ih =>
    simp only [List.all_cons, Bool.and_eq_true] at ha
    simp [spanP, ha.1, ih ha.2]

theorem sep_stop {p : Char → Bool} (hp : p ' ' = false) {t : Str} (ht : Sep t) :
    ∀ c t', t = c :: t' → p c = false := by
  intro c t' h
  rcases ht with h0 | ⟨t'', h1⟩
  · rw [h0] at h; cases h
  · rw [h1] at h; cases h; exact hp

theorem esc_head (v : Str) : (esc v).head? ≠ some '"' := by
  cases v with
  | nil => simp [esc]
  | cons c r => by_cases h : c = '"' <;> simp [esc, h]

theorem endsBS_tail {c : Char} {v : Str} (h : endsBS (c :: v) = false) : endsBS v = false := by
  cases v with
  | nil => rfl
  | cons d r => simpa [endsBS] using h

/-- The quoted alternative reads exactly the escaped value and stops at its closing quote. When the scan arrives at the
    closing quote the escape flag is set iff the last character read was a backslash of `v` (the backslash `esc` puts
    before a quote is followed by that quote, which clears the flag): that is `endsBS v`, or the initial `e` if `v = []`.
    The two hypotheses say the flag is clear there. Otherwise `scanQ` would take the closing quote for an escaped one, and
    a later quote of `t` or its backtracking branch (`none => some ([], r)`) would decide where the value ends. -/
theorem scanQ_esc (v : Str) : ∀ (e : Bool) (t : Str), endsBS v = false → (e = true → v ≠ []) →
    scanQ e (esc v ++ '"' :: t) = some (esc v, t) := by
  induction v with
  | nil => intro e t _ he; cases e <;> simp_all [esc, scanQ]
  | cons c r ih =>
    intro e t hbs _
    have hr := endsBS_tail hbs
    by_cases hc : c = '"'
    · subst hc
      -- `esc` writes `\"`: the backslash sets the flag, the quote is read as escaped and clears it; the scan of the
      -- rest succeeds (`ih`), so the `some` branch is taken
      simp [esc, scanQ, ih false t hr (by simp)]
    · -- a backslash of `v` sets the flag; `v` does not end here (`hbs`), so the invariant holds for the rest
      have hne : decide (c = '\\') = true → r ≠ [] := by
        rintro h rfl
        simp [endsBS] at hbs
        exact hbs (by simpa using h)
      simp [esc, hc, scanQ, ih (decide (c = '\\')) t hr hne]

theorem valueAt_quoted (v t : Str) (h : endsBS v = false) :
    valueAt ('"' :: (esc v ++ '"' :: t)) = some ('"' :: (esc v ++ ['"']), t) := by
  have := scanQ_esc v false t h (by intro h; cases h)
  simp [valueAt, this]

theorem replaceEsc_cons (c : Char) (s : Str) (h : s.head? ≠ some '"') : replaceEsc (c :: s) = c :: replaceEsc s := by
  cases s with
  | nil => rfl
  | cons d r =>
    have : d ≠ '"' := by simpa using h
    simp [replaceEsc, this]

theorem replaceEsc_esc (v : Str) : replaceEsc (esc v) = v := by
  induction v with
  | nil => rfl
  | cons c r ih =>
    by_cases hc : c = '"'
    · subst hc
      simp [esc, replaceEsc, ih]
    · simp [esc, hc, replaceEsc_cons _ _ (esc_head r), ih]

theorem unquote_quoted (v : Str) : unquote ('"' :: (esc v ++ ['"'])) = v := by
  simp only [unquote, if_true, stripEnds, List.drop_succ_cons, List.drop_zero]
  rw [List.dropLast_concat, replaceEsc_esc]

theorem unquote_word (w : Str) (h : wordOk w = true) : unquote w = w := by
  cases w with
  | nil => rfl
  | cons c r =>
    simp only [wordOk, Bool.and_eq_true, List.all_cons] at h
    obtain ⟨⟨_, hbare, _⟩, _⟩ := h
    simp [unquote, bareCh_ne_quote hbare]

theorem valueAt_word (w t : Str) (h : wordOk w = true) (ht : Sep t) : valueAt (w ++ t) = some (w, t) := by
  cases w with
  | nil => simp [wordOk] at h
  | cons c r =>
    simp only [wordOk, Bool.and_eq_true] at h
    obtain ⟨⟨_, hall⟩, hhead⟩ := h
    have hc : c ≠ '"' := bareCh_ne_quote (List.all_eq_true.mp hall c List.mem_cons_self)
    have hb : c ≠ '`' := by rintro rfl; simp at hhead
    have hsp := spanP_append bareCh (c :: r) t hall (sep_stop bareCh_sp ht)
    simp only [List.cons_append] at hsp ⊢
    simp [valueAt, hc, hb, bareAt, hsp]

theorem noName_of (s : Str) (hs : ∀ r', (spanP nameCh s).2 ≠ '=' :: r') : matchAt s = noName s := by
  unfold matchAt
  cases h2 : (spanP nameCh s).2 with
  | nil => simp
  | cons e r' =>
    have : e ≠ '=' := fun he => hs r' (he ▸ h2)
    simp [this]

theorem matchAt_space (s : Str) : matchAt (' ' :: s) = none := by
  have hq : (' ' : Char) ≠ '"' := by decide
  have hb : (' ' : Char) ≠ '`' := by decide
  simp [matchAt, noName, valueAt, bareAt, spanP, nameCh_sp, bareCh_sp, hq, hb]

theorem spanP_name_noeq (v : Str) (h : eqFirst v = false) : ∀ r', (spanP nameCh v).2 ≠ '=' :: r' := by
  induction v with
  | nil => intro r'; simp [spanP]
  | cons c r ih =>
    intro r'
    simp only [eqFirst] at h
    by_cases hce : c = '='
    · simp [hce] at h
    · by_cases hsp : reSpace c = true
      · simp [spanP, nameCh, hsp, hce]
      · simp only [hce, hsp] at h
        simpa [spanP, nameCh, hsp, hce] using ih h r'

theorem eqFirst_esc (v t : Str) (h : eqFirst v = false) (ht : Sep t) : eqFirst (esc v ++ '"' :: t) = false := by
  induction v with
  | nil => rcases ht with rfl | ⟨t', rfl⟩ <;> rfl
  | cons c r ih =>
    simp only [eqFirst] at h
    by_cases hce : c = '='
    · simp [hce] at h
    · by_cases hsp : reSpace c = true
      · have hcq : c ≠ '"' := by
          intro hq; subst hq; simp [reSpace_quote] at hsp
        simp [esc, hcq, eqFirst, hce, hsp]
      · simp only [hce, hsp] at h
        by_cases hcq : c = '"'
        · subst hcq
          exact ih h
        · simp [esc, hcq, eqFirst, hce, hsp, ih h]

theorem matchAt_quoted (v t : Str) (hbs : endsBS v = false) (heq : eqFirst v = false) (ht : Sep t) :
    matchAt ('"' :: (esc v ++ '"' :: t)) = some ([], '"' :: (esc v ++ ['"']), t) := by
  -- `eqFirst` skips the opening quote (`eqFirst ('"' :: r) = eqFirst r` by `rfl`), so `eqFirst_esc` is about this string
  rw [noName_of _ (spanP_name_noeq ('"' :: (esc v ++ '"' :: t)) (eqFirst_esc v t heq ht))]
  simp [noName, valueAt_quoted v t hbs]

theorem wordNoEq_all_nameCh (w : Str) (hw : wordOk w = true) (hne : w.all (· != '=') = true) : w.all nameCh = true := by
  simp only [wordOk, bareCh, nameCh, Bool.and_eq_true, List.all_eq_true] at hw hne ⊢
  obtain ⟨⟨_, hall⟩, _⟩ := hw
  exact fun c hc => ⟨(hall c hc).1, hne c hc⟩

theorem spanP_word_noeq (w t : Str) (hw : wordOk w = true) (hne : w.all (· != '=') = true) (ht : Sep t) :
    ∀ r', (spanP nameCh (w ++ t)).2 ≠ '=' :: r' := by
  intro r'
  rw [spanP_append nameCh w t (wordNoEq_all_nameCh w hw hne) (sep_stop nameCh_sp ht)]
  rcases ht with rfl | ⟨t', rfl⟩ <;> simp

theorem matchAt_bare (w t : Str) (hw : wordOk w = true) (hne : w.all (· != '=') = true) (ht : Sep t) :
    matchAt (w ++ t) = some ([], w, t) := by
  rw [noName_of _ (spanP_word_noeq w t hw hne ht)]
  simp [noName, valueAt_word w t hw ht]

theorem spanP_name (n r : Str) (hn : nameOk n = true) : spanP nameCh (n ++ '=' :: r) = (n, '=' :: r) ∧ n ≠ [] := by
  simp only [nameOk, Bool.and_eq_true] at hn
  exact ⟨spanP_append nameCh n _ hn.2 (by intro c t' h; cases h; exact nameCh_eq), by simpa using hn.1⟩

theorem matchAt_named (n val t : Str) (raw : Str) (hn : nameOk n = true)
    (hv : valueAt (val ++ t) = some (raw, t)) :
    matchAt (n ++ '=' :: (val ++ t)) = some (n, raw, t) := by
  obtain ⟨hsp, hne⟩ := spanP_name n (val ++ t) hn
  simp [matchAt, hsp, hne, hv]

theorem tokenizeFuel_some (n : Nat) {s nm raw rest : Str} (h : matchAt s = some (nm, raw, rest)) :
    tokenizeFuel (n + 1) s = (nm, raw) :: tokenizeFuel n rest := by
  cases s with
  | nil => simp [matchAt, noName, valueAt, spanP] at h
  | cons c r => simp [tokenizeFuel, h]

theorem tokenizeFuel_space (n : Nat) (s : Str) : tokenizeFuel (n + 1) (' ' :: s) = tokenizeFuel n s := by
  simp [tokenizeFuel, matchAt_space]

theorem tokenizeFuel_nil (n : Nat) : tokenizeFuel n [] = [] := by
  cases n <;> rfl

/-- raw text the tokenizer reports for an item -/
def Item.raw : Item → Str
  | .bare w => w
  | .quoted v => '"' :: (esc v ++ ['"'])
  | .named _ w => w
  | .namedQ _ v => '"' :: (esc v ++ ['"'])

theorem matchAt_item (i : Item) (t : Str) (hi : i.ok = true) (hs : i.safe = true) (ht : Sep t) :
    matchAt (i.render ++ t) = some (i.intended.1, i.raw, t) := by
  cases i with
  | bare w =>
    simp only [Item.ok, Bool.and_eq_true] at hi
    exact matchAt_bare w t hi.1 hi.2 ht
  | quoted v =>
    simp only [Item.ok, Item.safe, Bool.not_eq_true'] at hi hs
    simpa [Item.render, Item.intended, Item.raw] using matchAt_quoted v t hi hs ht
  | named n w =>
    simp only [Item.ok, Bool.and_eq_true] at hi
    simpa [Item.render, Item.intended, Item.raw] using matchAt_named n w t w hi.1 (valueAt_word w t hi.2 ht)
  | namedQ n v =>
    simp only [Item.ok, Bool.and_eq_true, Bool.not_eq_true'] at hi
    simpa [Item.render, Item.intended, Item.raw] using
      matchAt_named n ('"' :: (esc v ++ ['"'])) t _ hi.1 (by simpa using valueAt_quoted v t hi.2)

theorem render_item_ne (i : Item) (hi : i.ok = true) : i.render ≠ [] := by
  cases i with
  | bare w =>
    simp only [Item.ok, wordOk, Bool.and_eq_true] at hi
    obtain ⟨⟨⟨hne, _⟩, _⟩, _⟩ := hi
    simpa [Item.render] using hne
  | _ => simp [Item.render]

theorem tokenizeFuel_render (is : List Item) : ∀ (n : Nat), (∀ i ∈ is, i.ok = true) → (∀ i ∈ is, i.safe = true) →
    (render is).length + 1 ≤ n → tokenizeFuel n (render is) = is.map (fun i => (i.intended.1, i.raw)) := by
  induction is with
  | nil => intro n _ _ _; simp [render, tokenizeFuel_nil]
  | cons i r ih =>
    intro n hok hsafe hn
    have hne := render_item_ne i (hok i (by simp))
    have hm := fun t => matchAt_item i t (hok i (by simp)) (hsafe i (by simp))
    cases r with
    | nil =>
      obtain ⟨k, rfl⟩ : ∃ k, n = k + 1 := ⟨n - 1, by omega⟩
      simpa [render, tokenizeFuel_nil] using tokenizeFuel_some k (hm [] (.inl rfl))
    | cons j r' =>
      have hlen : (render (i :: j :: r')).length = i.render.length + 1 + (render (j :: r')).length := by
        simp [render]; omega
      have hpos : 0 < i.render.length := List.length_pos_iff.mpr hne
      -- one unit of fuel for the item, one for the position of the separating space
      obtain ⟨k, rfl⟩ : ∃ k, n = k + 2 := ⟨n - 2, by omega⟩
      rw [render, tokenizeFuel_some (k + 1) (hm (' ' :: render (j :: r')) (.inr ⟨_, rfl⟩)), tokenizeFuel_space,
        ih k (fun x hx => hok x (by simp [hx])) (fun x hx => hsafe x (by simp [hx])) (by omega)]
      simp

theorem unquote_item (i : Item) (hi : i.ok = true) : unquote i.raw = i.intended.2 := by
  cases i with
  | bare w =>
    simp only [Item.ok, Bool.and_eq_true] at hi
    exact unquote_word w hi.1
  | quoted v => exact unquote_quoted v
  | named n w =>
    simp only [Item.ok, Bool.and_eq_true] at hi
    exact unquote_word w hi.2
  | namedQ n v => exact unquote_quoted v

/-! ### model.Params (`join`) of stringified pairs is `render` of items -/
theorem splitName_named (n v : Str) (hn : nameOk n = true) : splitName (n ++ '=' :: v) = (n ++ ['='], v) := by
  obtain ⟨hsp, hne⟩ := spanP_name n v hn
  simp [splitName, hsp, hne]

theorem splitName_none (v : Str) (h : ∀ r', (spanP nameCh v).2 ≠ '=' :: r') : splitName v = ([], v) := by
  unfold splitName
  cases h2 : (spanP nameCh v).2 with
  | nil => rfl
  | cons e r =>
    have : e ≠ '=' := fun he => h r (he ▸ h2)
    simp [this]

theorem needsQuote_of_word (w : Str) (hw : wordOk w = true) : needsQuote w = false := by
  simp only [wordOk, Bool.and_eq_true, List.all_eq_true, bareCh, Bool.not_eq_true', bne_iff_ne, decide_eq_true_eq] at hw
  simp only [needsQuote, Bool.or_eq_false_iff, decide_eq_false_iff_not, List.any_eq_false, Bool.or_eq_true, not_or,
    decide_eq_true_eq]
  obtain ⟨⟨hne, hall⟩, _⟩ := hw
  exact ⟨hne, fun c hc => ⟨by simp [(hall c hc).1], (hall c hc).2⟩⟩

theorem toItem_spec (pr : Str × Str) (h : roundOk pr = true) :
    (toItem pr).ok = true ∧ (toItem pr).safe = true ∧ quoteEntry (stringify pr) = (toItem pr).render := by
  obtain ⟨n, v⟩ := pr
  simp only [roundOk, Bool.and_eq_true, Bool.or_eq_true, decide_eq_true_eq] at h
  obtain ⟨hn, hv⟩ := h
  -- the content of each case is `hs`: `splitName` takes the recorded text apart into (name=, value) again; for an unnamed
  -- value no name group matches, because `eqFirst v = false` (`spanP_name_noeq`) or the word has no '=' (`spanP_word_noeq`)
  by_cases hn0 : n = []
  · subst hn0
    by_cases hq : needsQuote v = true
    · simp only [hq, if_true, Bool.and_eq_true, Bool.not_eq_true', Bool.or_eq_true, bne_iff_ne, ne_eq, not_true_eq_false,
        false_or] at hv
      have hs := splitName_none v (spanP_name_noeq v hv.2)
      simp [quoteEntry, stringify, toItem, hs, hq, Item.render, Item.ok, Item.safe, hv.1, hv.2]
    · simp only [hq, if_false, Bool.false_eq_true] at hv
      have hst : wordOk v = true ∧ v.all (· != '=') = true := by simpa [stable] using hv
      have hs := splitName_none v (by simpa using spanP_word_noeq v [] hst.1 hst.2 (.inl rfl))
      simp [quoteEntry, stringify, toItem, hs, hq, Item.render, Item.ok, Item.safe, hst.1, hst.2]
  · have hnok : nameOk n = true := hn.resolve_left hn0
    have hs := splitName_named n v hnok
    by_cases hq : needsQuote v = true
    · simp only [hq, if_true, Bool.and_eq_true, Bool.not_eq_true'] at hv
      simp [quoteEntry, stringify, toItem, hn0, hs, hq, Item.render, Item.ok, Item.safe, hv.1, hnok]
    · have hst : nameOk n = true ∧ wordOk v = true := by simpa [stable, hn0, hq] using hv
      simp [quoteEntry, stringify, toItem, hn0, hs, hq, Item.render, Item.ok, Item.safe, hst.2, hnok]

theorem toItem_intended (pr : Str × Str) : (toItem pr).intended = pr := by
  obtain ⟨n, v⟩ := pr
  unfold toItem
  by_cases hq : needsQuote v = true <;> by_cases h1 : n = [] <;> simp [hq, h1, Item.intended]

theorem render_eq_joinSp : ∀ is : List Item, render is = joinSp (is.map Item.render)
  | [] => rfl
  | [_] => rfl
  | i :: j :: r => by simp [render, joinSp, render_eq_joinSp (j :: r)]

/-! ### start path: quotes added by the client are removed by `start` -/
theorem getLast?_snoc (s : Str) (c : Char) : (s ++ [c]).getLast? = some c := List.getLast?_concat

theorem removeQuotes_wrap (s : Str) : removeQuotes ('"' :: (s ++ ['"'])) = s := by
  simp [removeQuotes]

theorem escapeArg_id (p : Str) (h : ∀ c ∈ p, c ≠ '\r' ∧ c ≠ '\n') : escapeArg p = p := by
  induction p with
  | nil => rfl
  | cons c r ih =>
    have hc := h c (by simp)
    simp [escapeArg, hc.1, hc.2, ih (fun d hd => h d (by simp [hd]))]

/-! ### output capture: `dropTrailSp` is the trailing half of `strings.TrimSpace`; a stored output stays in the map until a
    later step stores under the same name -/
theorem dropTrailSp_spec (s : Str) : ∃ post, s = dropTrailSp s ++ post ∧ post.all goSpace = true ∧
    (∀ c, (dropTrailSp s).getLast? = some c → goSpace c = false) := by
  induction s with
  | nil => exact ⟨[], rfl, rfl, by simp [dropTrailSp]⟩
  | cons c r ih =>
    obtain ⟨post, h1, h2, h3⟩ := ih
    unfold dropTrailSp
    split
    · rename_i hc
      rw [hc.1] at h1
      exact ⟨c :: post, by simpa using h1, by simp [hc.2, h2], by simp⟩
    · rename_i hc
      refine ⟨post, by rw [List.cons_append, ← h1], h2, fun d hd => ?_⟩
      cases hr : dropTrailSp r with
      | nil =>
        rw [hr] at hd
        simp only [List.getLast?_singleton, Option.some.injEq] at hd
        simpa [hr, hd] using hc
      | cons e r' =>
        rw [hr] at hd h3
        exact h3 d (List.getLast?_cons_cons ▸ hd)

theorem get_store_same (m : OutMap) (k v : Str') : (m.store k v).get k = some v := by
  induction m with
  | nil => simp [OutMap.store, OutMap.get]
  | cons a r ih =>
    obtain ⟨k', v'⟩ := a
    by_cases h : k' = k <;> simp [OutMap.store, OutMap.get, h, ih]

theorem get_store_other (m : OutMap) (k k2 v : Str') (h : k2 ≠ k) : (m.store k2 v).get k = m.get k := by
  induction m with
  | nil => simp [OutMap.store, OutMap.get, h]
  | cons a r ih =>
    obtain ⟨k', v'⟩ := a
    by_cases h1 : k' = k2 <;> by_cases h2 : k' = k <;> simp_all [OutMap.store, OutMap.get]

theorem afterSteps_keeps (later : List Done) : ∀ (m : OutMap) (k v : Str'), m.get k = some v →
    (∀ d ∈ later, d.name ≠ k) → (afterSteps m later).get k = some v := by
  induction later with
  | nil => intro m k v h _; exact h
  | cons d r ih =>
    intro m k v h hl
    have hd := hl d (by simp)
    simp only [afterSteps]
    apply ih _ k v _ (fun e he => hl e (by simp [he]))
    by_cases hn : d.name = []
    · simp [hn, h]
    · simp only [hn, if_false]
      rw [get_store_other _ _ _ _ hd]
      exact h

end BdModel.Params
