import BdModel.Hist.Stamp
import BdModel.Proofs.HistNames
/-
  The file-name / timestamp layer of the history store, for Props/C06Names.lean. Three ideas carry it. A rendered stamp
  is a row of fixed-width decimal fields, so Go's string order on stamps is the lexicographic order of the fields
  (`render_lt`). A regex match that starts inside `pre.` cannot reach into the real stamp (`no_straddle`), so `findStamp`
  finds either the real stamp or a match that depends on it through three digits at most (`findStamp_stolen`). The
  comparator of `filterLatest` is a lexicographic product of string orders, and under a strict total order a collection
  has one sorted arrangement (`sorted_unique`). The calendar part relates the closed-form day count to the year-by-year
  walk of `ofUnixMillis` (`dby_succ`).
-/
namespace BdModel.Hist.Stamp
-- `render` is `Stamp.render`, the stamp of a `Civil`; the path builder of `Names` is written `Names.render`
open BdModel.Hist.Names

theorem digits_facts : ∀ i, i < 10 → ∀ j, j < 10 →
    ((digits.getD i '0' = digits.getD j '0') ↔ i = j) ∧
    (((digits.getD i '0').toNat < (digits.getD j '0').toNat) ↔ i < j) := by decide

theorem digit_eq_iff (a b : Nat) : digit a = digit b ↔ a % 10 = b % 10 :=
  (digits_facts _ (Nat.mod_lt a (by decide)) _ (Nat.mod_lt b (by decide))).1

theorem digit_lt_iff (a b : Nat) : (digit a).toNat < (digit b).toNat ↔ a % 10 < b % 10 :=
  (digits_facts _ (Nat.mod_lt a (by decide)) _ (Nat.mod_lt b (by decide))).2

theorem digit_mem (n : Nat) : digit n ∈ digits := by
  have : ∀ i, i < 10 → digits.getD i '0' ∈ digits := by decide
  exact this _ (Nat.mod_lt n (by decide))

theorem digits_cls : ∀ c ∈ digits,
    Cls.ok .dig c = true ∧ Cls.ok .any c = true ∧ Cls.ok .colon c = false ∧ Cls.ok .dot c = false := by decide

theorem digit_dig (n : Nat) : Cls.ok .dig (digit n) = true := (digits_cls _ (digit_mem n)).1
theorem digit_any (n : Nat) : Cls.ok .any (digit n) = true := (digits_cls _ (digit_mem n)).2.1
theorem digit_colon (n : Nat) : Cls.ok .colon (digit n) = false := (digits_cls _ (digit_mem n)).2.2.1
theorem digit_dot (n : Nat) : Cls.ok .dot (digit n) = false := (digits_cls _ (digit_mem n)).2.2.2
theorem dot_cls : Cls.ok .any '.' = true ∧ Cls.ok .dot '.' = true ∧ Cls.ok .dig '.' = false := by decide

theorem digit_two (n : Nat) (h : n % 10 = 2) : Cls.ok .two (digit n) = true := by
  unfold digit; rw [h]; decide

theorem slt_nil_right (a : List Char) : slt a [] = false := by cases a <;> rfl

theorem slt_cons (a b : Char) (as bs : List Char) :
    slt (a :: as) (b :: bs) = if a = b then slt as bs else decide (a.toNat < b.toNat) := rfl

/-- `slt` is core's lexicographic order on `List Char` (`Char` ordered by code point) -/
theorem slt_iff : ∀ a b : List Char, slt a b = true ↔ a < b
  | _, [] => by simp [slt_nil_right]
  | [], _ :: _ => by simp [slt]
  | a :: as, b :: bs => by
    rw [slt_cons, List.cons_lt_cons_iff]
    by_cases h : a = b
    · subst h; simp [slt_iff as bs, Char.lt_irrefl]
    · simp only [h, if_false, false_and, or_false, decide_eq_true_eq]; exact Iff.rfl

theorem slt_irrefl (a : List Char) : slt a a = false :=
  Bool.eq_false_iff.mpr (fun h => List.lt_irrefl a ((slt_iff a a).mp h))

theorem slt_total (a b : List Char) (h : a ≠ b) : slt a b = true ∨ slt b a = true := by
  rw [slt_iff, slt_iff]
  by_cases h1 : a < b
  · exact Or.inl h1
  · exact Or.inr (Decidable.byContradiction fun h2 => h (List.le_antisymm h2 h1))

theorem slt_block : ∀ (u v x y : List Char), u.length = v.length →
    slt (u ++ x) (v ++ y) = if u = v then slt x y else slt u v
  | [], [], _, _, _ => by simp
  | [], _ :: _, _, _, h => by simp at h
  | _ :: _, [], _, _, h => by simp at h
  | a :: u, b :: v, x, y, h => by
    have hl : u.length = v.length := by simpa using h
    simp only [List.cons_append, slt_cons, slt_block u v x y hl, List.cons.injEq]
    by_cases hab : a = b
    · subst hab; simp
    · simp [hab]

theorem slt_append_left (p a b : List Char) : slt (p ++ a) (p ++ b) = slt a b := by
  rw [slt_block p p a b rfl, if_pos rfl]


/- Fixed-width fields. What is known of two digit strings is carried as a pair (`slt u v = decide P`, `u = v ↔ Q`);
   `slt_digit_cons` takes the pair through one more leading digit (digit first, then `P` / `Q`), and `lex_mod` turns
   "digit of weight `w` first, then the rest modulo `w`" into a comparison modulo `w * 10`. -/
theorem slt_digit_cons (x y : Nat) (u v : List Char) (P Q : Prop) [Decidable P]
    (hlt : slt u v = decide P) (heq : u = v ↔ Q) :
    slt (digit x :: u) (digit y :: v) = decide (x % 10 < y % 10 ∨ (x % 10 = y % 10 ∧ P)) ∧
    (digit x :: u = digit y :: v ↔ x % 10 = y % 10 ∧ Q) := by
  simp only [slt_cons, List.cons.injEq, digit_eq_iff, digit_lt_iff, hlt, heq]
  refine ⟨?_, trivial⟩
  by_cases h : x % 10 = y % 10
  · simp [h]
  · simp [h]

theorem lex_mod (w a b : Nat) (hw : 0 < w) :
    ((a / w % 10 < b / w % 10 ∨ (a / w % 10 = b / w % 10 ∧ a % w < b % w)) ↔ a % (w * 10) < b % (w * 10)) ∧
    ((a / w % 10 = b / w % 10 ∧ a % w = b % w) ↔ a % (w * 10) = b % (w * 10)) := by
  rw [Nat.mod_mul, Nat.mod_mul]
  have key : ∀ {p q x y : Nat}, p < w → x < y → p + w * x < q + w * y := fun hp h => by
    have := Nat.mul_le_mul_left w (Nat.succ_le_of_lt h)
    rw [Nat.mul_succ] at this
    omega
  have hp := Nat.mod_lt a hw
  have hq := Nat.mod_lt b hw
  by_cases h1 : a / w % 10 < b / w % 10
  · have := key (q := b % w) hp h1; omega
  · by_cases h2 : b / w % 10 < a / w % 10
    · have := key (q := a % w) hq h2; omega
    · have : a / w % 10 = b / w % 10 := by omega
      rw [this]; omega

theorem pad2_cmp (a b : Nat) :
    slt (pad2 a) (pad2 b) = decide (a % 100 < b % 100) ∧ (pad2 a = pad2 b ↔ a % 100 = b % 100) := by
  obtain ⟨l1, e1⟩ := slt_digit_cons a b [] [] False True rfl (by simp)
  simp only [and_false, or_false, and_true] at l1 e1
  obtain ⟨l, e⟩ := slt_digit_cons (a / 10) (b / 10) _ _ _ _ l1 e1
  exact ⟨l.trans (decide_eq_decide.mpr (lex_mod 10 a b (by decide)).1), e.trans (lex_mod 10 a b (by decide)).2⟩

theorem pad3_cmp (a b : Nat) :
    slt (pad3 a) (pad3 b) = decide (a % 1000 < b % 1000) ∧ (pad3 a = pad3 b ↔ a % 1000 = b % 1000) := by
  obtain ⟨l, e⟩ := slt_digit_cons (a / 100) (b / 100) _ _ _ _ (pad2_cmp a b).1 (pad2_cmp a b).2
  exact ⟨l.trans (decide_eq_decide.mpr (lex_mod 100 a b (by decide)).1), e.trans (lex_mod 100 a b (by decide)).2⟩

theorem pad4_cmp (a b : Nat) :
    slt (pad4 a) (pad4 b) = decide (a % 10000 < b % 10000) ∧ (pad4 a = pad4 b ↔ a % 10000 = b % 10000) := by
  obtain ⟨l, e⟩ := slt_digit_cons (a / 1000) (b / 1000) _ _ _ _ (pad3_cmp a b).1 (pad3_cmp a b).2
  exact ⟨l.trans (decide_eq_decide.mpr (lex_mod 1000 a b (by decide)).1), e.trans (lex_mod 1000 a b (by decide)).2⟩

theorem cmp_of_bounds {u v : List Char} {w a b : Nat}
    (h : slt u v = decide (a % w < b % w) ∧ (u = v ↔ a % w = b % w)) (ha : a < w) (hb : b < w) :
    slt u v = decide (a < b) ∧ (u = v ↔ a = b) := by
  rwa [Nat.mod_eq_of_lt ha, Nat.mod_eq_of_lt hb] at h

theorem pad3_inj (a b : Nat) (ha : a < 1000) (hb : b < 1000) : pad3 a = pad3 b ↔ a = b :=
  (cmp_of_bounds (pad3_cmp a b) ha hb).2

theorem slt_field {u v : List Char} {P Q : Prop} [Decidable P] [Decidable Q]
    (h : slt u v = decide P ∧ (u = v ↔ Q)) (hl : u.length = v.length) (x y : List Char) :
    slt (u ++ x) (v ++ y) = decide (P ∨ (Q ∧ slt x y = true)) := by
  obtain ⟨hlt, heq⟩ := h
  rw [slt_block u v x y hl]
  by_cases hq : Q
  · have : u = v := heq.mpr hq
    subst this
    have hp : ¬ P := by
      intro hp; have := slt_irrefl u; rw [hlt] at this; simp [hp] at this
    simp [hq, hp]
  · have : ¬ u = v := fun e => hq (heq.mp e)
    simp [this, hq, hlt]

theorem slt_cons_self (c : Char) (x y : List Char) : slt (c :: x) (c :: y) = slt x y := slt_append_left [c] x y

theorem render_lt (a b : Civil) (ha : a.Valid) (hb : b.Valid) :
    slt (render a) (render b) = decide (a.before b) := by
  unfold Civil.Valid at ha hb
  simp only [render, date8, clock13, List.append_assoc, List.cons_append]
  rw [slt_field (cmp_of_bounds (pad4_cmp a.year b.year) (by omega) (by omega)) rfl]
  rw [slt_field (cmp_of_bounds (pad2_cmp a.month b.month) (by omega) (by omega)) rfl]
  rw [slt_field (cmp_of_bounds (pad2_cmp a.day b.day) (by omega) (by omega)) rfl, slt_cons_self]
  rw [slt_field (cmp_of_bounds (pad2_cmp a.hour b.hour) (by omega) (by omega)) rfl, slt_cons_self]
  rw [slt_field (cmp_of_bounds (pad2_cmp a.minute b.minute) (by omega) (by omega)) rfl, slt_cons_self]
  rw [slt_field (cmp_of_bounds (pad2_cmp a.second b.second) (by omega) (by omega)) rfl, slt_cons_self]
  rw [(cmp_of_bounds (pad3_cmp a.milli b.milli) (by omega) (by omega)).1]
  simp only [decide_eq_true_eq, Civil.before]

theorem render_length (t : Civil) : (render t).length = 21 := rfl

theorem before_iff_key (a b : Civil) (ha : a.Valid) (hb : b.Valid) : a.before b ↔ key a < key b := by
  unfold Civil.Valid at ha hb
  unfold Civil.before key
  omega

theorem key_inj (a b : Civil) (ha : a.Valid) (hb : b.Valid) (h : key a = key b) : a = b := by
  unfold Civil.Valid at ha hb
  unfold key at h
  cases a; cases b
  simp only [Civil.mk.injEq] at *
  omega

theorem render_inj (a b : Civil) (ha : a.Valid) (hb : b.Valid) : render a = render b ↔ a = b := by
  constructor
  · intro h
    have h1 := render_lt a b ha hb
    have h2 := render_lt b a hb ha
    rw [h, slt_irrefl] at h1
    rw [h, slt_irrefl] at h2
    have n1 : ¬ a.before b := by simpa using h1.symm
    have n2 : ¬ b.before a := by simpa using h2.symm
    rw [before_iff_key a b ha hb] at n1
    rw [before_iff_key b a hb ha] at n2
    exact key_inj a b ha hb (by omega)
  · rintro rfl; rfl


theorem matchSeq_get : ∀ (ks : List Cls) (s : List Char), matchSeq ks s = true →
    ∀ i (h : i < ks.length), ∃ c, s[i]? = some c ∧ ks[i].ok c = true
  | [], _, _, i, h => by simp at h
  | _ :: _, [], hm, _, _ => by simp [matchSeq] at hm
  | k :: ks, c :: cs, hm, i, h => by
    simp only [matchSeq, Bool.and_eq_true] at hm
    cases i with
    | zero => exact ⟨c, rfl, hm.1⟩
    | succ j =>
      obtain ⟨d, hd, hk⟩ := matchSeq_get ks cs hm.2 j (by simpa using h)
      exact ⟨d, by simpa using hd, by simpa using hk⟩

theorem matchSeq_append_long : ∀ (ks : List Cls) (u x : List Char), ks.length ≤ u.length →
    matchSeq ks (u ++ x) = matchSeq ks u
  | [], _, _, _ => rfl
  | _ :: _, [], _, h => by simp at h
  | k :: ks, c :: u, x, h => by
    simp only [List.cons_append, matchSeq]
    rw [matchSeq_append_long ks u x (by simpa using h)]

theorem matchSeq_length (ks : List Cls) (s : List Char) (h : matchSeq ks s = true) : ks.length ≤ s.length :=
  Nat.le_of_not_lt fun hl => by
    obtain ⟨c, hc, _⟩ := matchSeq_get ks s h s.length hl
    simp at hc

theorem findStamp_cons (c : Char) (cs : List Char) :
    findStamp (c :: cs) = match stampLen (c :: cs) with
      | some n => (c :: cs).take n
      | none => findStamp cs := rfl

theorem stampLen_none {s : List Char} (h : matchSeq coreCls s = false) : stampLen s = none := by
  unfold stampLen; rw [h]; rfl

theorem stampLen_some {s : List Char} (h : matchSeq coreCls s = true) :
    stampLen s = some (if matchSeq fracCls (s.drop 17) then 21 else 17) := by
  unfold stampLen; rw [h, if_pos rfl]; split <;> rfl

theorem findStamp_head (v : List Char) (hm : matchSeq coreCls v = true) :
    findStamp v = if matchSeq fracCls (v.drop 17) then v.take 21 else v.take 17 := by
  cases v with
  | nil => cases hm
  | cons c cs => rw [findStamp_cons, stampLen_some hm]; cases matchSeq fracCls ((c :: cs).drop 17) <;> rfl

theorem findStamp_skip : ∀ (u z : List Char),
    (∀ u1 v1, u = u1 ++ v1 → v1 ≠ [] → matchSeq coreCls (v1 ++ z) = false) → findStamp (u ++ z) = findStamp z
  | [], _, _ => rfl
  | c :: u, z, h => by
    have h0 : matchSeq coreCls (c :: (u ++ z)) = false := h [] (c :: u) rfl (List.cons_ne_nil _ _)
    rw [List.cons_append, findStamp_cons, stampLen_none h0]
    exact findStamp_skip u z (fun u1 v1 e hv => h (c :: u1) v1 (by simp [e]) hv)

/-- the leftmost position at which the mandatory part matches, if any: `v` is the rest of `s` from there on, and
    where `findStamp` takes its answer from -/
theorem leftmost_match : ∀ s : List Char, ∃ u v, s = u ++ v ∧
    (∀ u1 v1, u = u1 ++ v1 → v1 ≠ [] → matchSeq coreCls (v1 ++ v) = false) ∧ (v = [] ∨ matchSeq coreCls v = true) ∧
    findStamp s = findStamp v
  | [] => ⟨[], [], rfl, fun _ _ e hne => absurd (List.append_eq_nil_iff.mp e.symm).2 hne, Or.inl rfl, rfl⟩
  | c :: cs => by
    cases hm : matchSeq coreCls (c :: cs) with
    | true =>
      exact ⟨[], c :: cs, rfl, fun _ _ e hne => absurd (List.append_eq_nil_iff.mp e.symm).2 hne, Or.inr hm, rfl⟩
    | false =>
      obtain ⟨u, v, e, hall, hv, hs⟩ := leftmost_match cs
      refine ⟨c :: u, v, by rw [e]; rfl, fun u1 v1 e1 hne => ?_, hv, by rw [findStamp_cons, stampLen_none hm]; exact hs⟩
      cases u1 with
      | nil => rw [List.nil_append] at e1; rw [← e1, List.cons_append, ← e]; exact hm
      | cons d u1' => exact hall u1' v1 (List.cons.inj e1).2 hne

theorem findStamp_nil_iff (s : List Char) :
    findStamp s = [] ↔ ∀ u v, s = u ++ v → matchSeq coreCls v = false := by
  obtain ⟨u, v, e, hall, hv, hs⟩ := leftmost_match s
  rcases hv with rfl | hm
  · refine ⟨fun _ u' v' e' => ?_, fun _ => hs⟩
    cases v' with
    | nil => rfl
    | cons c v'' =>
      have := hall u' (c :: v'') (by rw [← e', e, List.append_nil]) (List.cons_ne_nil _ _)
      rwa [List.append_nil] at this
  · have hv : v ≠ [] := by intro h; subst h; cases hm
    refine ⟨fun h => ?_, fun h => absurd (h u v e) (by rw [hm]; decide)⟩
    exfalso
    rw [hs, findStamp_head v hm] at h
    split at h <;> exact hv (List.take_eq_nil_iff.mp h |>.resolve_left (by decide))

theorem core_dot : ∀ i (h : i < coreCls.length), coreCls[i].ok '.' = true → i = 8 := by decide

theorem stampLen_render (t : Civil) (ht : t.Valid) (x : List Char) : stampLen (render t ++ x) = some 21 := by
  unfold Civil.Valid at ht
  have h2 : Cls.ok .two (digit (t.year / 1000)) = true := digit_two _ (by omega)
  have hc : Cls.ok .colon ':' = true := by decide
  simp [stampLen, render, date8, clock13, pad4, pad2, pad3, coreCls, fracCls, matchSeq, digit_dig, h2, dot_cls, hc]

theorem findStamp_render (t : Civil) (ht : t.Valid) (x : List Char) : findStamp (render t ++ x) = render t := by
  have e : render t ++ x = digit (t.year / 1000) :: ((render t).drop 1 ++ x) := rfl
  have := stampLen_render t ht x
  rw [e] at this
  rw [e, findStamp_cons, this]
  show ((render t) ++ x).take 21 = render t
  rw [List.take_left' (render_length t)]

/-- a match that starts inside `pre.` cannot use the real stamp's characters: the `.` forces offset 8, and then
    offset 11 wants `:` where the year has its third digit -/
theorem no_straddle (w : List Char) (t : Civil) (x : List Char)
    (hw : matchSeq coreCls (w ++ ['.']) = false) :
    matchSeq coreCls (w ++ '.' :: (render t ++ x)) = false := by
  by_cases hl : coreCls.length ≤ (w ++ ['.']).length
  · rw [List.append_cons, matchSeq_append_long _ _ _ hl]; exact hw
  · refine Bool.eq_false_iff.mpr (fun hm => ?_)
    have hlen : w.length < 16 := by simp [coreCls] at hl; omega
    obtain ⟨c, hc, hk⟩ := matchSeq_get _ _ hm w.length (by simp [coreCls]; omega)
    have hc' : c = '.' := by
      rw [List.getElem?_append_right (Nat.le_refl _)] at hc
      simpa using hc.symm
    subst hc'
    have h8 := core_dot _ _ hk
    obtain ⟨d, hd, hk'⟩ := matchSeq_get _ _ hm 11 (by decide)
    rw [List.getElem?_append_right (by omega)] at hd
    have : 11 - w.length = 3 := by omega
    rw [this] at hd
    have hd' : d = digit (t.year / 10) := by
      have : (render t ++ x)[2]? = some (digit (t.year / 10)) := rfl
      simp only [List.getElem?_cons_succ] at hd
      rw [this] at hd; exact (Option.some.inj hd).symm
    subst hd'
    have : coreCls[11] = Cls.colon := rfl
    rw [this, digit_colon] at hk'; cases hk'

theorem suffix_dot (a pre b : List Char) (e : pre ++ ['.'] = a ++ b) (hb : b ≠ []) : ∃ w, b = w ++ ['.'] := by
  have h := congrArg List.getLast? e
  rw [List.getLast?_concat, List.getLast?_append, List.getLast?_eq_some_getLast hb, Option.some_or] at h
  exact List.getLast?_eq_some_iff.mp ((List.getLast?_eq_some_getLast hb).trans h.symm)

/-- in `pre.<stamp><x>` the positions of `pre.` before a given one, none of which starts a match within `pre.`, are
    skipped: a match starting there cannot end in the real stamp either (`no_straddle`) -/
theorem findStamp_past (pre u v : List Char) (t : Civil) (x : List Char) (e : pre ++ ['.'] = u ++ v)
    (hall : ∀ u1 v1, u = u1 ++ v1 → v1 ≠ [] → matchSeq coreCls (v1 ++ v) = false) :
    findStamp (pre ++ '.' :: (render t ++ x)) = findStamp (v ++ (render t ++ x)) := by
  rw [List.append_cons, e, List.append_assoc]
  apply findStamp_skip
  intro u1 v1 eu hne
  obtain ⟨w, hw⟩ := suffix_dot u1 pre (v1 ++ v) (by rw [e, eu, List.append_assoc]) (by simp [hne])
  have := no_straddle w t x (by rw [← hw]; exact hall u1 v1 eu hne)
  rw [← List.append_assoc, hw]; simpa using this

theorem findStamp_pre (pre : List Char) (t : Civil) (x : List Char) (ht : t.Valid) (hf : findStamp (pre ++ ['.']) = []) :
    findStamp (pre ++ '.' :: (render t ++ x)) = render t := by
  rw [findStamp_past pre (pre ++ ['.']) [] t x (List.append_nil _).symm
    (fun u1 v1 e _ => by rw [List.append_nil]; exact (findStamp_nil_iff _).mp hf u1 v1 e)]
  exact findStamp_render t ht x


/-! ### the comparator of filterLatest is a strict total order on strings -/

theorem newer_def (a b : List Char) :
    newer a b = if findStamp a ≠ findStamp b then slt (findStamp b) (findStamp a) else slt b a := rfl

/-- the comparator is the lexicographic product: later stamp first, then greater name first -/
theorem newer_iff (a b : List Char) :
    newer a b = true ↔ findStamp b < findStamp a ∨ (findStamp a = findStamp b ∧ b < a) := by
  rw [newer_def]
  by_cases h : findStamp a = findStamp b
  · simp [h, slt_iff, List.lt_irrefl]
  · simp [h, slt_iff]

theorem newer_irrefl (a : List Char) : newer a a = false :=
  Bool.eq_false_iff.mpr fun h => ((newer_iff a a).mp h).elim (List.lt_irrefl _) (fun h' => List.lt_irrefl _ h'.2)

theorem newer_trans (a b c : List Char) (h1 : newer a b = true) (h2 : newer b c = true) : newer a c = true := by
  rw [newer_iff] at *
  rcases h1, h2 with ⟨h1 | ⟨e1, h1⟩, h2 | ⟨e2, h2⟩⟩
  · exact Or.inl (List.lt_trans h2 h1)
  · exact Or.inl (e2 ▸ h1)
  · exact Or.inl (e1 ▸ h2)
  · exact Or.inr ⟨e1.trans e2, List.lt_trans h2 h1⟩

theorem newer_asymm (a b : List Char) (h : newer a b = true) : newer b a = false := by
  refine Bool.eq_false_iff.mpr fun h' => ?_
  rw [newer_iff] at h h'
  rcases h, h' with ⟨h | ⟨e, h⟩, h' | ⟨e', h'⟩⟩
  · exact List.lt_asymm h h'
  · exact List.lt_irrefl _ (e' ▸ h)
  · exact List.lt_irrefl _ (e ▸ h')
  · exact List.lt_asymm h h'

theorem newer_total (a b : List Char) (h : a ≠ b) : newer a b = true ∨ newer b a = true := by
  rw [newer_iff, newer_iff]
  by_cases e : findStamp a = findStamp b
  · rcases slt_total a b h with h' | h' <;> rw [slt_iff] at h'
    · exact Or.inr (Or.inr ⟨e.symm, h'⟩)
    · exact Or.inl (Or.inr ⟨e, h'⟩)
  · rcases slt_total _ _ e with h' | h' <;> rw [slt_iff] at h'
    · exact Or.inr (Or.inl h')
    · exact Or.inl (Or.inl h')

/-! ### insertion sort with a strict total order (`insertBy` / `sortBy` of THIS namespace, the model of `sort.Slice` in
    `filterLatest`; `Hist` has its own pair for its own sort) -/

section sort
variable {α : Type} (lt : α → α → Bool)

theorem insertBy_perm (x : α) : ∀ l : List α, (insertBy lt x l).Perm (x :: l)
  | [] => List.Perm.refl _
  | y :: ys => by
    unfold insertBy
    split
    · exact ((insertBy_perm x ys).cons y).trans (List.Perm.swap x y ys)
    · exact List.Perm.refl _

theorem sortBy_perm : ∀ l : List α, (sortBy lt l).Perm l
  | [] => List.Perm.refl _
  | x :: xs => (insertBy_perm lt x _).trans ((sortBy_perm xs).cons x)

/-- "not after": b is not strictly before a -/
def nle (a b : α) : Prop := lt b a = false

section strictTotal
variable (htr : ∀ a b c, lt a b = true → lt b c = true → lt a c = true)
  (has : ∀ a b, lt a b = true → lt b a = false) (htot : ∀ a b, a ≠ b → lt a b = true ∨ lt b a = true)
include htr has htot

theorem insertBy_sorted (x : α) : ∀ l : List α, l.Pairwise (nle lt) → (insertBy lt x l).Pairwise (nle lt)
  | [], _ => by simp [insertBy]
  | y :: ys, h => by
    unfold insertBy
    have hy := List.pairwise_cons.mp h
    split
    · rename_i hyx
      refine List.pairwise_cons.mpr ⟨?_, insertBy_sorted x ys hy.2⟩
      intro z hz
      rcases (List.mem_cons.mp ((insertBy_perm lt x ys).subset hz)) with rfl | hz
      · exact has _ _ hyx
      · exact hy.1 z hz
    · rename_i hyx
      have hyx : lt y x = false := by simpa using hyx
      refine List.pairwise_cons.mpr ⟨?_, h⟩
      intro z hz
      rcases List.mem_cons.mp hz with rfl | hz
      · exact hyx
      · have hyz : lt z y = false := hy.1 z hz
        cases hzx : lt z x with
        | false => exact hzx
        | true =>
          exfalso
          by_cases e : y = x
          · subst e; rw [hzx] at hyz; cases hyz
          · rcases htot y x e with h1 | h1
            · rw [h1] at hyx; cases hyx
            · have := htr _ _ _ hzx h1; rw [this] at hyz; cases hyz

theorem sortBy_sorted : ∀ l : List α, (sortBy lt l).Pairwise (nle lt)
  | [] => List.Pairwise.nil
  | x :: xs => insertBy_sorted lt htr has htot x _ (sortBy_sorted xs)

/-- the sorted arrangement is unique: ANY list that is a rearrangement of l and has no element strictly before an
    earlier one is `sortBy lt l` (so every correct sorting algorithm - Go's pdqsort in `sort.Slice` - returns it) -/
theorem sorted_unique (l out : List α) (hp : out.Perm l) (hs : out.Pairwise (nle lt)) : out = sortBy lt l := by
  refine List.Perm.eq_of_pairwise (le := nle lt) ?_ hs (sortBy_sorted lt htr has htot l)
    (hp.trans (sortBy_perm lt l).symm)
  intro a b _ _ h1 h2
  by_cases e : a = b
  · exact e
  · rcases htot a b e with h | h
    · unfold nle at h2; rw [h] at h2; cases h2
    · unfold nle at h1; rw [h] at h1; cases h1

theorem sortBy_of_perm (l l' : List α) (hp : l.Perm l') : sortBy lt l = sortBy lt l' :=
  sorted_unique lt htr has htot l' _ ((sortBy_perm lt l).trans hp) (sortBy_sorted lt htr has htot l)

end strictTotal

theorem insertBy_map {β : Type} (f : β → α) (x : β) : ∀ l : List β,
    (insertBy (fun a b => lt (f a) (f b)) x l).map f = insertBy lt (f x) (l.map f)
  | [] => rfl
  | y :: ys => by
    simp only [insertBy, List.map_cons]
    split
    · simp [insertBy_map f x ys]
    · simp

theorem sortBy_map {β : Type} (f : β → α) : ∀ l : List β,
    (sortBy (fun a b => lt (f a) (f b)) l).map f = sortBy lt (l.map f)
  | [] => rfl
  | x :: xs => by
    simp only [sortBy, List.map_cons]
    rw [insertBy_map, sortBy_map f xs]

end sort

/-! ### in a name of one DAG the stamp sits right behind `pre.` -/

theorem fileName_shape (pre : List Char) (t : Civil) (req : List Char) (c : Bool) :
    fileName pre t req c = pre ++ '.' :: (render t ++ tail req c) := by
  simp [fileName, Names.render, tail, List.append_assoc]

theorem slt_pre_dot (pre x y : List Char) : slt (pre ++ '.' :: x) (pre ++ '.' :: y) = slt x y := by
  rw [List.append_cons pre '.' x, List.append_cons pre '.' y, slt_append_left]

/-- the compacted twin's tail is greater: `_` (0x5f) > `.` (0x2e) -/
theorem twin_tail (req : List Char) : slt (tail req false) (tail req true) = true := by
  simp only [tail, if_true, Bool.false_eq_true, if_false, List.append_nil, List.cons_append, List.append_assoc,
    slt_cons_self, slt_append_left]
  decide

/-! ### sorting the names of a DAG's runs is sorting the runs -/

/-- the order of runs that the comparator induces through their names -/
def runNewer (pre : List Char) (a b : Run) : Bool := newer (a.name pre) (b.name pre)

theorem filterLatest_runs (pre : List Char) (runs : List Run) (n : Int) :
    filterLatest (runs.map (Run.name pre)) n =
      ((sortBy (runNewer pre) runs).map (Run.name pre)).take (cut n runs.length) := by
  unfold filterLatest runNewer
  rw [sortBy_map newer (Run.name pre) runs, List.length_map]

theorem sortRuns_sorted (pre : List Char) (runs : List Run) :
    (sortBy (runNewer pre) runs).Pairwise (fun a b => newer (b.name pre) (a.name pre) = false) := by
  have := sortBy_sorted newer newer_trans newer_asymm newer_total (runs.map (Run.name pre))
  rw [← sortBy_map newer (Run.name pre) runs] at this
  exact (List.pairwise_map.mp this)

/-! ### the day pattern selects `pre.<day>`, a separator-free stretch, a dot, another, `.dat`; a stamp and a tail have
    no separator, a date no glob character -/

theorem today_iff (pre d8 name : List Char) (hd : ∀ c ∈ d8, isMeta c = false) :
    gmatch (todayPattern pre d8) name = true ↔
      ∃ m1 m2, name = pre ++ '.' :: d8 ++ m1 ++ '.' :: m2 ++ extDat ∧ sep ∉ m1 ∧ sep ∉ m2 := by
  have hp : todayPattern pre d8 = escapeGlob (pre ++ '.' :: d8) ++ '*' :: '.' :: '*' :: extDat := by
    have h1 : escapeGlob ('.' :: d8) = '.' :: d8 :=
      escapeGlob_id _ (by
        intro c hc
        rcases List.mem_cons.mp hc with rfl | hc
        · decide
        · exact hd c hc)
    rw [escapeGlob_append, h1]; simp [todayPattern]
  rw [hp, gmatch_escape_append]
  have hdot : isMeta '.' = false := by decide
  constructor
  · rintro ⟨s', rfl, hg⟩
    rw [gmatch_star, gstar_iff] at hg
    obtain ⟨m1, t, rfl, hm1, ht⟩ := hg
    cases t with
    | nil => rw [gmatch_lit_nil _ _ hdot] at ht; cases ht
    | cons c t' =>
      rw [gmatch_lit _ _ _ _ hdot] at ht
      simp only [Bool.and_eq_true, beq_iff_eq] at ht
      obtain ⟨rfl, ht⟩ := ht
      rw [gmatch_star, gstar_iff] at ht
      obtain ⟨m2, t'', rfl, hm2, he⟩ := ht
      rw [gmatch_extDat] at he
      subst he
      exact ⟨m1, m2, by simp [List.append_assoc], hm1, hm2⟩
  · rintro ⟨m1, m2, rfl, hm1, hm2⟩
    refine ⟨m1 ++ '.' :: m2 ++ extDat, by simp [List.append_assoc], ?_⟩
    rw [gmatch_star, gstar_iff]
    refine ⟨m1, '.' :: (m2 ++ extDat), by simp [List.append_assoc], hm1, ?_⟩
    rw [gmatch_lit _ _ _ _ hdot]
    simp only [beq_self_eq_true, Bool.true_and]
    rw [gmatch_star, gstar_iff]
    exact ⟨m2, extDat, rfl, hm2, (gmatch_extDat _).mpr rfl⟩

theorem render_chars (t : Civil) : ∀ c ∈ render t, c ∈ '.' :: ':' :: digits := by
  simp [render, date8, clock13, pad4, pad2, pad3, digit_mem]

theorem stampChars_plain : ∀ c ∈ '.' :: ':' :: digits, c ≠ sep ∧ isMeta c = false := by decide

theorem render_no_sep (t : Civil) : sep ∉ render t :=
  fun h => (stampChars_plain _ (render_chars t _ h)).1 rfl

theorem date8_plain (d : Civil) : ∀ c ∈ date8 d, isMeta c = false :=
  fun c hc => (stampChars_plain c (render_chars d c (List.mem_append_left _ hc))).2

theorem date8_no_sep (d : Civil) : sep ∉ date8 d :=
  fun h => render_no_sep d (List.mem_append_left _ h)

theorem clock13_no_sep (t : Civil) : sep ∉ (clock13 t).drop 1 :=
  fun h => render_no_sep t (List.mem_append_right _ (List.mem_of_mem_drop h))

theorem date8_length (d : Civil) : (date8 d).length = 8 := rfl

theorem date8_inj (a b : Civil) (ha : a.Valid) (hb : b.Valid) :
    date8 a = date8 b ↔ (a.year = b.year ∧ a.month = b.month ∧ a.day = b.day) := by
  unfold Civil.Valid at ha hb
  constructor
  · intro h
    obtain ⟨h12, h3⟩ := List.append_inj' h rfl
    obtain ⟨h1, h2⟩ := List.append_inj h12 rfl
    exact ⟨(cmp_of_bounds (pad4_cmp _ _) (by omega) (by omega)).2.mp h1,
      (cmp_of_bounds (pad2_cmp _ _) (by omega) (by omega)).2.mp h2, (cmp_of_bounds (pad2_cmp _ _) (by omega) (by omega)).2.mp h3⟩
  · rintro ⟨h1, h2, h3⟩; unfold date8; rw [h1, h2, h3]

theorem clock13_head (t : Civil) : clock13 t = '.' :: (clock13 t).drop 1 := rfl

theorem tail_no_sep (req : List Char) (c : Bool) (hr : sep ∉ req8 req) : sep ∉ tail req c := by
  cases c <;> simp [tail, hr, sep_plain]

theorem split_last_sep (a b x y : List Char) (hx : sep ∉ x) (hy : sep ∉ y) (e : a ++ sep :: x = b ++ sep :: y) :
    a = b ∧ x = y := by
  rcases List.append_eq_append_iff.mp e with ⟨a', rfl, h⟩ | ⟨c', rfl, h⟩
  · cases a' with
    | nil => simp at h; exact ⟨by simp, h⟩
    | cons z a'' =>
      exfalso
      simp only [List.cons_append, List.cons.injEq] at h
      exact hx (by rw [h.2]; simp)
  · cases c' with
    | nil => simp at h; exact ⟨by simp, h.symm⟩
    | cons z c'' =>
      exfalso
      simp only [List.cons_append, List.cons.injEq] at h
      exact hy (by rw [h.2]; simp)

theorem today_other_dir (dir p dir' p' d8 : List Char) (t : Civil) (req : List Char) (c : Bool)
    (hd : ∀ c ∈ d8, isMeta c = false) (hd8 : sep ∉ d8) (hp : sep ∉ p) (hp' : sep ∉ p') (hr : sep ∉ req8 req)
    (hne : dir ≠ dir') :
    gmatch (todayPattern (dir ++ sep :: p) d8) (fileName (dir' ++ sep :: p') t req c) = false := by
  refine Bool.eq_false_iff.mpr (fun hg => ?_)
  obtain ⟨m1, m2, e, h1, h2⟩ := (today_iff _ _ _ hd).mp hg
  rw [fileName_shape] at e
  obtain ⟨e2, _, e4⟩ := sep_plain
  simp only [List.append_assoc, List.cons_append] at e
  refine hne (split_last_sep _ _ _ _ ?_ ?_ e).1.symm
  · simp only [List.mem_append, List.mem_cons, not_or]
    exact ⟨hp', e2, render_no_sep t, tail_no_sep req c hr⟩
  · simp only [List.mem_append, List.mem_cons, not_or]
    exact ⟨hp, e2, hd8, h1, e2, h2, e4⟩


/-! ### the calendar: the day number is strictly monotone in (year, month, day) -/

theorem daysIn_eq (y m : Nat) : daysIn y m = daysInL (isLeap y) m := rfl
theorem dbm_eq (y m : Nat) : daysBeforeMonth y m = dbmL (isLeap y) m := rfl

theorem isLeap_iff (y : Nat) : isLeap y = true ↔ y % 4 = 0 ∧ (y % 100 ≠ 0 ∨ y % 400 = 0) := by
  simp [isLeap]

theorem month_table : ∀ l : Bool, ∀ m, m < 13 → 1 ≤ m →
    dbmL l m + daysInL l m ≤ (if l then 366 else 365) ∧
    (∀ m', m' < 13 → m < m' → dbmL l m + daysInL l m ≤ dbmL l m') := by decide

theorem dbm_succ : ∀ l : Bool, ∀ m, m < 12 → 1 ≤ m → dbmL l (m + 1) = dbmL l m + daysInL l m := by decide

/-- the closed form meets the year-by-year walk: each of the three rounded-up quotients steps by one exactly when its
    divisor divides `y`; with the quotients as variables the rest is linear -/
theorem dby_succ (y : Nat) : daysBeforeYear (y + 1) = daysBeforeYear y + yearLen y := by
  have h4 : (y + 1 + 3) / 4 = (y + 3) / 4 + 1 ∧ y % 4 = 0 ∨ (y + 1 + 3) / 4 = (y + 3) / 4 ∧ y % 4 ≠ 0 := by omega
  have h100 : (y + 1 + 99) / 100 = (y + 99) / 100 + 1 ∧ y % 100 = 0 ∨
      (y + 1 + 99) / 100 = (y + 99) / 100 ∧ y % 100 ≠ 0 := by omega
  have h400 : (y + 1 + 399) / 400 = (y + 399) / 400 + 1 ∧ y % 400 = 0 ∨
      (y + 1 + 399) / 400 = (y + 399) / 400 ∧ y % 400 ≠ 0 := by omega
  have hle : (y + 99) / 100 ≤ (y + 3) / 4 := by omega
  unfold daysBeforeYear yearLen
  simp only [isLeap_iff]
  generalize (y + 1 + 3) / 4 = a' at *
  generalize (y + 1 + 99) / 100 = b' at *
  generalize (y + 1 + 399) / 400 = c' at *
  generalize (y + 3) / 4 = a at *
  generalize (y + 99) / 100 = b at *
  generalize (y + 399) / 400 = c at *
  split <;> omega

theorem dby_le (a b : Nat) (h : a ≤ b) : daysBeforeYear a ≤ daysBeforeYear b := by
  induction h with
  | refl => exact Nat.le_refl _
  | step _ ih => rw [dby_succ]; omega

/-- day number since 0000-01-01 -/
def dayNo (t : Civil) : Nat := daysBeforeYear t.year + daysBeforeMonth t.year t.month + (t.day - 1)

theorem dayNo_lt (a b : Civil) (ha : a.Real) (hb : b.Real)
    (h : a.year < b.year ∨ (a.year = b.year ∧ (a.month < b.month ∨ (a.month = b.month ∧ a.day < b.day)))) :
    dayNo a < dayNo b := by
  obtain ⟨va, da⟩ := ha
  obtain ⟨vb, db⟩ := hb
  unfold Civil.Valid at va vb
  unfold dayNo
  rw [dbm_eq, dbm_eq]
  rw [daysIn_eq] at da db
  have ta := month_table (isLeap a.year) a.month (by omega) (by omega)
  rcases h with h | ⟨hy, h | ⟨hm, hd⟩⟩
  · have hm := dby_le (a.year + 1) b.year h
    rw [dby_succ] at hm
    have := ta.1
    unfold yearLen at hm
    omega
  · have := ta.2 b.month (by omega) h
    rw [hy] at this da ⊢
    omega
  · rw [hy, hm]; omega

theorem dayNo_lt_iff (a b : Civil) (ha : a.Real) (hb : b.Real) :
    dayNo a < dayNo b ↔
      (a.year < b.year ∨ (a.year = b.year ∧ (a.month < b.month ∨ (a.month = b.month ∧ a.day < b.day)))) := by
  refine ⟨fun h => ?_, dayNo_lt a b ha hb⟩
  have h2 := dayNo_lt b a hb ha
  have h3 : a.year = b.year → a.month = b.month → a.day = b.day → dayNo a = dayNo b := by
    intro x y z; unfold dayNo; rw [x, y, z]
  omega

/-- a Valid date is not before 1970-01-01, so the truncated `- 719528` in `epochDay` loses nothing -/
theorem epoch_le (t : Civil) (h : t.Valid) : 719528 ≤ dayNo t := by
  unfold Civil.Valid at h
  unfold dayNo daysBeforeYear; omega

/-- the clock part on top of ANY day count: the shape of both `key` and `unixMillis` -/
theorem clock_lt_iff (a b : Civil) (ha : a.Valid) (hb : b.Valid) (da db : Nat) :
    (((da * 24 + a.hour) * 60 + a.minute) * 60 + a.second) * 1000 + a.milli <
      (((db * 24 + b.hour) * 60 + b.minute) * 60 + b.second) * 1000 + b.milli ↔
    da < db ∨ (da = db ∧ (a.hour < b.hour ∨ (a.hour = b.hour ∧ (a.minute < b.minute ∨ (a.minute = b.minute ∧
      (a.second < b.second ∨ (a.second = b.second ∧ a.milli < b.milli))))))) := by
  unfold Civil.Valid at ha hb
  omega

theorem unix_lt_key (a b : Civil) (ha : a.Real) (hb : b.Real) : unixMillis a < unixMillis b ↔ key a < key b := by
  have ea := epoch_le a ha.1
  have eb := epoch_le b hb.1
  have l1 := dayNo_lt_iff a b ha hb
  have l2 := dayNo_lt_iff b a hb ha
  have xa : epochDay a = dayNo a - 719528 := rfl
  have xb : epochDay b = dayNo b - 719528 := rfl
  obtain ⟨va, _⟩ := ha
  obtain ⟨vb, _⟩ := hb
  unfold unixMillis key
  rw [clock_lt_iff a b va vb, clock_lt_iff a b va vb]
  unfold Civil.Valid at va vb
  -- both day counts order like (year, month, day) lexicographically: `epochDay` by `dayNo_lt_iff` (`ea`, `eb` make the
  -- truncated subtraction exact), the date part of `key` because month < 13 and day < 32
  have h1 : epochDay a < epochDay b ↔
      (a.year * 13 + a.month) * 32 + a.day < (b.year * 13 + b.month) * 32 + b.day := by omega
  have h2 : epochDay a = epochDay b ↔
      (a.year * 13 + a.month) * 32 + a.day = (b.year * 13 + b.month) * 32 + b.day := by omega
  rw [h1, h2]

theorem unix_lt_iff (a b : Civil) (ha : a.Real) (hb : b.Real) : unixMillis a < unixMillis b ↔ a.before b :=
  (unix_lt_key a b ha hb).trans (before_iff_key a b ha.1 hb.1).symm


/-! ### `ofUnixMillis` is the inverse of `unixMillis` -/

theorem splitYear_spec : ∀ fuel y d, d < 365 * fuel →
    daysBeforeYear (splitYear fuel y d).1 + (splitYear fuel y d).2 = daysBeforeYear y + d ∧
    (splitYear fuel y d).2 < yearLen (splitYear fuel y d).1
  | 0, _, _, h => by omega
  | fuel + 1, y, d, h => by
    unfold splitYear
    by_cases hd : d < yearLen y
    · simp [hd]
    · simp only [hd, if_false]
      have hy : 365 ≤ yearLen y := by unfold yearLen; split <;> omega
      obtain ⟨h1, h2⟩ := splitYear_spec fuel (y + 1) (d - yearLen y) (by omega)
      refine ⟨?_, h2⟩
      rw [h1, dby_succ]; omega

/-- the month walk from month `m` with just enough fuel to reach December -/
theorem splitMonth_spec (l : Bool) : ∀ fuel m d, 1 ≤ m → m + fuel = 12 → dbmL l m + d < (if l then 366 else 365) →
    dbmL l (splitMonthL l fuel m d).1 + (splitMonthL l fuel m d).2 = dbmL l m + d ∧
    (splitMonthL l fuel m d).2 < daysInL l (splitMonthL l fuel m d).1 ∧
    1 ≤ (splitMonthL l fuel m d).1 ∧ (splitMonthL l fuel m d).1 ≤ 12
  | 0, m, d, _, h2, h3 => by
    have : m = 12 := by omega
    subst this
    have : dbmL l 12 + 31 = if l then 366 else 365 := by cases l <;> rfl
    exact ⟨rfl, show d < 31 by omega, show 1 ≤ 12 by decide, Nat.le_refl 12⟩
  | fuel + 1, m, d, h1, h2, h3 => by
    unfold splitMonthL
    by_cases hd : d < daysInL l m
    · rw [if_pos hd]; exact ⟨rfl, hd, h1, by omega⟩
    · rw [if_neg hd]
      have hs := dbm_succ l m (by omega) h1
      obtain ⟨r1, r2, r3, r4⟩ := splitMonth_spec l fuel (m + 1) (d - daysInL l m) (by omega) (by omega) (by omega)
      exact ⟨by omega, r2, r3, r4⟩

/-- every instant from 2000-01-01T00:00:00.000Z to 2999-12-31T23:59:59.999Z has a calendar date, and
    `unixMillis` gives the instant back -/
theorem ofUnix_spec (ms : Nat) (hlo : 946684800000 ≤ ms) (hhi : ms < 32503680000000) :
    (ofUnixMillis ms).Real ∧ unixMillis (ofUnixMillis ms) = ms := by
  have hsy := splitYear_spec (ms / 86400000 / 365 + 1) 1970 (ms / 86400000) (by omega)
  generalize hsyd : splitYear (ms / 86400000 / 365 + 1) 1970 (ms / 86400000) = sy at hsy
  obtain ⟨y, d⟩ := sy
  simp only at hsy
  obtain ⟨s1, s2⟩ := hsy
  have h1970 : daysBeforeYear 1970 = 719528 := by decide
  rw [h1970] at s1
  have hyl : yearLen y = if isLeap y then 366 else 365 := rfl
  have hjan : dbmL (isLeap y) 1 = 0 := by cases isLeap y <;> rfl
  have hsm := splitMonth_spec (isLeap y) 11 1 d (Nat.le_refl 1) rfl (by rw [hjan, Nat.zero_add, ← hyl]; exact s2)
  rw [hjan, Nat.zero_add] at hsm
  generalize hsmd : splitMonthL (isLeap y) 11 1 d = sm at hsm
  obtain ⟨m, d'⟩ := sm
  simp only at hsm
  obtain ⟨m1, m2, m3, m4⟩ := hsm
  have hof : ofUnixMillis ms = Civil.mk y m (d' + 1) (ms % 86400000 / 3600000)
      (ms % 86400000 / 60000 % 60) (ms % 86400000 / 1000 % 60) (ms % 86400000 % 1000) := by
    simp only [ofUnixMillis, hsyd, hsmd]
  -- `s1` places `daysBeforeYear y` within one year length (`s2`) of 719528 + days, `hlo` / `hhi` bound the days;
  -- against the two evaluated year starts, `dby_le` then excludes y < 2000 and y > 2999
  have hy1 : 2000 ≤ y := by
    refine Nat.le_of_not_lt (fun hlt => ?_)
    have := dby_le (y + 1) 2000 hlt
    rw [dby_succ] at this
    have h2000 : daysBeforeYear 2000 = 730485 := by decide
    omega
  have hy2 : y ≤ 2999 := by
    refine Nat.le_of_not_lt (fun hlt => ?_)
    have := dby_le 3000 y (by omega)
    have h3000 : daysBeforeYear 3000 = 1095728 := by decide
    omega
  have hdl : daysInL (isLeap y) m ≤ 31 := by
    unfold daysInL; split <;> (try split) <;> omega
  rw [hof]
  refine ⟨⟨?_, ?_⟩, ?_⟩
  · unfold Civil.Valid; simp only; omega
  · show d' + 1 ≤ daysInL (isLeap y) m; omega
  · unfold unixMillis epochDay
    simp only
    have : daysBeforeMonth y m = dbmL (isLeap y) m := rfl
    rw [this]
    -- `s1` and `m1` give the day count back as 719528 + ms / 86400000; the clock fields are quotients of ms % 86400000
    omega


/-! ### the comparator orders the files of one DAG by whole name - for EVERY prefix, StampFree or not -/

theorem frac_render (t : Civil) (x : List Char) : matchSeq fracCls (render t ++ x) = false := by
  simp [render, date8, pad4, fracCls, matchSeq, digit_dot]

theorem frac_dot_render (t : Civil) (x : List Char) : matchSeq fracCls ('.' :: (render t ++ x)) = true := by
  simp [render, date8, pad4, fracCls, matchSeq, digit_dig, dot_cls]

/-- the optional group `\.\d{3}` takes a `.` in its first place only -/
theorem frac_dot_second (a : Char) (z : List Char) : matchSeq fracCls (a :: '.' :: z) = false := by
  simp [fracCls, matchSeq, dot_cls]

theorem frac_dot_third (a b : Char) (z : List Char) : matchSeq fracCls (a :: b :: '.' :: z) = false := by
  simp [fracCls, matchSeq, dot_cls]

/-- the stamp found in `pre.<stamp><x>` when `pre.` itself contains a match: either a string that does not depend on
    the real stamp at all, or such a string followed by the first three digits of the year -/
theorem findStamp_stolen (pre : List Char) (hnf : findStamp (pre ++ ['.']) ≠ []) :
    ∃ k : List Char, (∀ (t : Civil) (x : List Char), findStamp (pre ++ '.' :: (render t ++ x)) = k) ∨
      (∀ (t : Civil) (x : List Char), findStamp (pre ++ '.' :: (render t ++ x)) = k ++ (render t).take 3) := by
  obtain ⟨u, v, e, hall, hv, hs⟩ := leftmost_match (pre ++ ['.'])
  have hm : matchSeq coreCls v = true := hv.resolve_left (fun h => hnf (by rw [hs, h]; rfl))
  have hvne : v ≠ [] := by intro h; subst h; simp [matchSeq, coreCls] at hm
  have hlen : 17 ≤ v.length := matchSeq_length _ _ hm
  have hsame : ∀ (t : Civil) (x : List Char),
      findStamp (pre ++ '.' :: (render t ++ x)) = findStamp (v ++ (render t ++ x)) :=
    fun t x => findStamp_past pre u v t x e hall
  have hlong : ∀ (t : Civil) (x : List Char), matchSeq coreCls (v ++ (render t ++ x)) = true := by
    intro t x; rw [matchSeq_append_long coreCls v _ hlen]; exact hm
  have hhead : ∀ (t : Civil) (x : List Char), findStamp (v ++ (render t ++ x)) =
      if matchSeq fracCls (v.drop 17 ++ (render t ++ x)) then (v ++ (render t ++ x)).take 21
      else v.take 17 := by
    intro t x
    rw [findStamp_head _ (hlong t x), List.drop_append_of_le_length hlen,
      List.take_append_of_le_length hlen]
  obtain ⟨w, hw⟩ := suffix_dot u pre v e hvne
  -- the part of v behind the mandatory 17 characters
  have hsplit : v = v.take 17 ++ v.drop 17 := (List.take_append_drop 17 v).symm
  generalize hd : v.drop 17 = v' at *
  have hv'len : v'.length + 17 = v.length := by rw [← hd, List.length_drop]; omega
  by_cases hv' : v' = []
  · subst hv'
    refine ⟨v.take 17, Or.inl (fun t x => ?_)⟩
    rw [hsame, hhead, List.nil_append, frac_render]; rfl
  -- v' ends with the `.` of `pre.`; the optional group `\.\d{3}` accepts a `.` in its first place only
  obtain ⟨w', rfl⟩ := suffix_dot (v.take 17) w v' (by rw [← hw]; exact hsplit) hv'
  match w' with
  | [] =>
    refine ⟨v, Or.inr (fun t x => ?_)⟩
    rw [hsame, hhead, List.nil_append, List.singleton_append, frac_dot_render]
    simp only [if_true]
    have hl : v.length = 18 := by simp at hv'len; omega
    rw [List.take_append, List.take_of_length_le (by omega), hl]
    show v ++ List.take 3 (render t ++ x) = v ++ List.take 3 (render t)
    rw [List.take_append_of_le_length (by rw [render_length]; omega)]
  | [a] =>
    refine ⟨v.take 17, Or.inl (fun t x => ?_)⟩
    rw [hsame, hhead]
    exact if_neg (by rw [show [a] ++ ['.'] ++ (render t ++ x) = a :: '.' :: (render t ++ x) from rfl, frac_dot_second]; simp)
  | [a, b] =>
    refine ⟨v.take 17, Or.inl (fun t x => ?_)⟩
    rw [hsame, hhead]
    exact if_neg (by rw [show [a, b] ++ ['.'] ++ (render t ++ x) = a :: b :: '.' :: (render t ++ x) from rfl, frac_dot_third]; simp)
  | a :: b :: c :: rest =>
    refine ⟨if matchSeq fracCls (a :: b :: c :: rest ++ ['.']) then v.take 21 else v.take 17, Or.inl (fun t x => ?_)⟩
    rw [hsame, hhead, matchSeq_append_long fracCls (a :: b :: c :: rest ++ ['.']) _ (by simp [fracCls])]
    have hl : 21 ≤ v.length := by simp at hv'len; omega
    rw [List.take_append_of_le_length hl]


theorem name_order_chrono (pre : List Char) (t1 t2 : Civil) (h1 : t1.Valid) (h2 : t2.Valid) (x1 x2 : List Char) :
    slt (pre ++ '.' :: (render t2 ++ x2)) (pre ++ '.' :: (render t1 ++ x1)) =
      if t1 = t2 then slt x2 x1 else decide (t2.before t1) := by
  rw [slt_pre_dot, slt_block (render t2) (render t1) _ _ rfl]
  by_cases e : t1 = t2
  · subst e; simp
  · have : ¬ render t2 = render t1 := fun x => e ((render_inj t2 t1 h2 h1).mp x).symm
    simp only [e, this, if_false]
    exact render_lt t2 t1 h2 h1

/-- `filterLatest`'s comparator on two files of one DAG is whole-name order, whatever the prefix: a match stolen by
    the prefix is either the same for both names (then the comparator falls back to the names) or differs only in the
    first three digits of the year (then it orders by those, like the names do) -/
theorem newer_any_prefix (pre : List Char) (t1 t2 : Civil) (h1 : t1.Valid) (h2 : t2.Valid) (x1 x2 : List Char) :
    newer (pre ++ '.' :: (render t1 ++ x1)) (pre ++ '.' :: (render t2 ++ x2)) =
      slt (pre ++ '.' :: (render t2 ++ x2)) (pre ++ '.' :: (render t1 ++ x1)) := by
  -- whenever the stamps found differ, they are blocks of equal length at the same offset in the two names
  rw [newer_def]
  split
  · rename_i hne
    rw [slt_pre_dot]
    by_cases hf : findStamp (pre ++ ['.']) = []
    · rw [findStamp_pre pre t1 x1 h1 hf, findStamp_pre pre t2 x2 h2 hf] at hne ⊢
      rw [slt_block (render t2) (render t1) _ _ rfl, if_neg (Ne.symm hne)]
    · obtain ⟨k, hk | hk⟩ := findStamp_stolen pre hf
      · rw [hk t1 x1, hk t2 x2] at hne; exact absurd rfl hne
      · rw [hk t1 x1, hk t2 x2] at hne ⊢
        have e : ¬ (render t2).take 3 = (render t1).take 3 := fun x => hne (by rw [x])
        have s : ∀ r x : List Char, r ++ x = r.take 3 ++ (r.drop 3 ++ x) := fun r x => by
          rw [← List.append_assoc, List.take_append_drop]
        rw [slt_append_left, s (render t1), s (render t2), slt_block ((render t2).take 3) ((render t1).take 3) _ _ rfl, if_neg e]
  · rfl

set_option linter.unusedVariables false in
/-- comparing WHOLE names gives the same order on the files of one DAG (the stamp sits at the same offset);
    `hf` is not needed -/
theorem newer_eq_name_order (pre : List Char) (hf : StampFree pre) (t1 t2 : Civil) (h1 : t1.Valid) (h2 : t2.Valid)
    (r1 r2 : List Char) (c1 c2 : Bool) :
    newer (fileName pre t1 r1 c1) (fileName pre t2 r2 c2) = slt (fileName pre t2 r2 c2) (fileName pre t1 r1 c1) := by
  rw [fileName_shape, fileName_shape]; exact newer_any_prefix pre t1 t2 h1 h2 _ _

end BdModel.Hist.Stamp
