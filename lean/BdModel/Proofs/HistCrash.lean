import BdModel.Hist.Crash
import BdModel.Proofs.Hist
/- C07: a crash state is reached by primitive changes of the file list (a file appended, a line appended to one file,
   a file unlinked); what survives each of them. -/
namespace BdModel.Hist

def SameRun (f f' : RunFile) : Prop := f'.dag = f.dag ∧ f'.stamp = f.stamp ∧ f'.req8 = f.req8

theorem SameRun.refl (f : RunFile) : SameRun f f := ⟨rfl, rfl, rfl⟩

theorem SameRun.symm {f g : RunFile} (h : SameRun f g) : SameRun g f := ⟨h.1.symm, h.2.1.symm, h.2.2.symm⟩

theorem SameRun.trans {f g k : RunFile} (h : SameRun f g) (h' : SameRun g k) : SameRun f k :=
  ⟨h'.1.trans h.1, h'.2.1.trans h.2.1, h'.2.2.trans h.2.2⟩

/-- files whose names agree up to the `_c` flag (a file and itself, an original and its twin) are of one run -/
theorem sameRun_of_key {f g : RunFile} {c : Bool} (h : g.key = { f.key with comp := c }) : SameRun f g :=
  ⟨congrArg Key.dag h, congrArg Key.stamp h, congrArg Key.req8 h⟩

theorem parse_append (f : RunFile) (l : Line) : parse { f with lines := f.lines ++ [l], age := 0 } = some l := by
  simp [parse]

theorem appendLine_survive (s : Store) (k : Key) (l' : Line) (f : RunFile) (hf : f ∈ s.files) :
    ∃ f' ∈ (appendLine s k l').files, f'.key = f.key ∧ if f.key = k then parse f' = some l' else f' = f := by
  refine ⟨if f.key = k then { f with lines := f.lines ++ [l'], age := 0 } else f,
    List.mem_map_of_mem (f := fun f => if f.key = k then { f with lines := f.lines ++ [l'], age := 0 } else f) hf, ?_⟩
  split
  · exact ⟨rfl, parse_append f l'⟩
  · exact ⟨rfl, rfl⟩

theorem mem_closeTwinCreated (s : Store) (k : Key) (f : RunFile) (hf : f ∈ s.files) :
    f ∈ (closeTwinCreated s k).files := by
  unfold closeTwinCreated
  simp only
  split
  · exact hf
  · simp [hf]

theorem twin_in_created (s : Store) (k : Key) :
    ∃ t ∈ (closeTwinCreated s k).files, t.key = { k with comp := true } := by
  unfold closeTwinCreated
  simp only
  split
  · rename_i h
    simp only [hasKey, List.any_eq_true] at h
    obtain ⟨t, ht, hk⟩ := h
    exact ⟨t, ht, by simpa using hk⟩
  · exact ⟨{ dag := k.dag, stamp := k.stamp, req8 := k.req8, comp := true }, by simp, rfl⟩

theorem modifyFile_absent (s : Store) (k : Key) (g : RunFile → RunFile) (h : hasKey s k = false) :
    (modifyFile s k g).files = s.files := by
  have hne : ∀ f ∈ s.files, ¬ f.key = k := fun f hf e =>
    absurd (beq_iff_eq.mpr e) (List.any_eq_false.mp h f hf)
  exact map_eq_self fun f hf => if_neg (hne f hf)

theorem close_files (s : Store) (w : Nat) (k : Key) (l : Line) (hw : writerKey s w = some k)
    (hl : (s.files.find? (fun f => f.key == k)).bind parse = some l) :
    (close s w).files = (closeTwinWritten s k l).files.filter (fun f => f.key != k) := by
  have hs1 : hasKey { s with writers := s.writers.filter (fun p => p.1 != w) } { k with comp := true } =
      hasKey s { k with comp := true } := rfl
  unfold close closeTwinWritten closeTwinCreated
  simp only [hw, hl, hs1]
  cases hh : hasKey s { k with comp := true } with
  | true => rfl
  | false =>
    have hm := modifyFile_absent s { k with comp := true } (fun f => { f with lines := f.lines ++ [l], age := 0 }) hh
    simp only [Bool.false_eq_true, if_false, appendLine, modifyFile, List.map_append] at hm ⊢
    rw [hm]
    simp [RunFile.key]

end BdModel.Hist
