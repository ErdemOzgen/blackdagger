import BdModel.Defs.Names
/-
  The name layer of the definition store (Defs/Names.lean): `splitExt` (= filepath.Ext),
  `resolve` (= util.AddYamlExtension), `keyOf` (spelling ↦ the model's abstract name).
-/
namespace BdModel.Defs

theorem splitExt_nodot (s : List Char) (h : ∀ c ∈ s, c ≠ '.') : splitExt s = (s, []) := by
  induction s with
  | nil => rfl
  | cons c cs ih =>
    have hc : c ≠ '.' := h c (by simp)
    have ih' := ih (fun x hx => h x (by simp [hx]))
    simp [splitExt, ih', hc]

theorem splitExt_append (n e : List Char) (he : ∀ c ∈ e, c ≠ '.') : splitExt (n ++ '.' :: e) = (n, '.' :: e) := by
  induction n with
  | nil => simp [splitExt, splitExt_nodot e he]
  | cons c cs ih => simp [splitExt, ih]

/-- `stem ++ ext` is the name; the extension is empty (no dot at all) or a dot followed by dot-free characters -/
theorem splitExt_spec (s : List Char) :
    (splitExt s).1 ++ (splitExt s).2 = s ∧
    (((splitExt s).2 = [] ∧ ∀ c ∈ s, c ≠ '.') ∨ ∃ e, (splitExt s).2 = '.' :: e ∧ ∀ c ∈ e, c ≠ '.') := by
  induction s with
  | nil => simp [splitExt]
  | cons c cs ih =>
    obtain ⟨h1, h2⟩ := ih
    by_cases he : (splitExt cs).2 = []
    · have hnd : ∀ x ∈ cs, x ≠ '.' := by
        rcases h2 with ⟨_, h⟩ | ⟨e, h, _⟩
        · exact h
        · rw [he] at h; cases h
      have hst : (splitExt cs).1 = cs := by rw [he, List.append_nil] at h1; exact h1
      by_cases hc : c = '.'
      · subst hc
        simp only [splitExt, he]
        exact ⟨by simp, Or.inr ⟨cs, by simp, hnd⟩⟩
      · simp only [splitExt, he]
        refine ⟨by simp [hc, hst], Or.inl ⟨by simp [hc], ?_⟩⟩
        intro x hx
        rcases List.mem_cons.mp hx with rfl | hx
        · exact hc
        · exact hnd x hx
    · have hs : splitExt (c :: cs) = (c :: (splitExt cs).1, (splitExt cs).2) := by simp [splitExt, he]
      rw [hs]
      refine ⟨by simp [h1], Or.inr ?_⟩
      rcases h2 with ⟨h, _⟩ | ⟨e, h, hd⟩
      · exact absurd h he
      · exact ⟨e, h, hd⟩

theorem yaml_nodot : ∀ c ∈ ['y', 'a', 'm', 'l'], c ≠ '.' := by decide
theorem yml_nodot : ∀ c ∈ ['y', 'm', 'l'], c ≠ '.' := by decide

theorem resolve_yml (n : List Char) : resolve (n ++ ymlExt) = n ++ yamlExt := by
  have := splitExt_append n ['y', 'm', 'l'] yml_nodot
  simp [resolve, ymlExt, this]

theorem resolve_yaml (n : List Char) : resolve (n ++ yamlExt) = n ++ yamlExt := by
  have := splitExt_append n ['y', 'a', 'm', 'l'] yaml_nodot
  simp [resolve, yamlExt, ymlExt, this]

theorem resolve_bare (n : List Char) (h : ∀ c ∈ n, c ≠ '.') : resolve n = n ++ yamlExt := by
  simp [resolve, splitExt_nodot n h]

/-- the three branches of `AddYamlExtension` -/
theorem resolve_cases (s : List Char) :
    ((splitExt s).2 = [] ∧ resolve s = s ++ yamlExt) ∨
    ((splitExt s).2 = ymlExt ∧ resolve s = (splitExt s).1 ++ yamlExt) ∨
    ((splitExt s).2 ≠ [] ∧ (splitExt s).2 ≠ ymlExt ∧ resolve s = s) := by
  by_cases he : (splitExt s).2 = []
  · exact Or.inl ⟨he, by simp [resolve, he]⟩
  · by_cases hy : (splitExt s).2 = ymlExt
    · exact Or.inr (Or.inl ⟨hy, by simp [resolve, hy, show ymlExt ≠ [] by decide]⟩)
    · exact Or.inr (Or.inr ⟨he, hy, by simp [resolve, he, hy]⟩)

theorem resolve_idem (s : List Char) : resolve (resolve s) = resolve s := by
  rcases resolve_cases s with ⟨_, hr⟩ | ⟨_, hr⟩ | ⟨_, _, hr⟩
  · rw [hr]; exact resolve_yaml s
  · rw [hr]; exact resolve_yaml _
  · rw [hr, hr]

/-- the store never reads or writes a file with the short extension: no name resolves to `….yml` -/
theorem resolve_ext_ne_yml (s : List Char) : (splitExt (resolve s)).2 ≠ ymlExt := by
  have hy : ∀ n : List Char, (splitExt (n ++ yamlExt)).2 ≠ ymlExt := by
    intro n
    rw [yamlExt, splitExt_append n ['y', 'a', 'm', 'l'] yaml_nodot]
    exact (by decide : ['.', 'y', 'a', 'm', 'l'] ≠ ymlExt)
  rcases resolve_cases s with ⟨_, hr⟩ | ⟨_, hr⟩ | ⟨_, hne, hr⟩
  · rw [hr]; exact hy s
  · rw [hr]; exact hy _
  · rw [hr]; exact hne

theorem ext_yml_of_resolve_ne (s : List Char) (he : (splitExt s).2 ≠ []) (hr : resolve s ≠ s) : (splitExt s).2 = ymlExt := by
  rcases resolve_cases s with ⟨h, _⟩ | ⟨h, _⟩ | ⟨_, _, h⟩
  · exact absurd h he
  · exact h
  · exact absurd h hr

/-- fixed `find`: the file of the spelling is among the probes, and every probe BEFORE it is a file the store never
    writes (no name resolves to it) — so in a directory the store manages `find` returns the spelling's own file
    whenever that file exists -/
theorem find_first_hit (s : List Char) :
    ∃ pre post, findCandidates s = pre ++ resolve s :: post ∧ ∀ c ∈ pre, ∀ t, resolve t ≠ c := by
  unfold findCandidates
  by_cases he : (splitExt s).2 = []
  · refine ⟨[], [s ++ ymlExt], ?_, by simp⟩
    have hr : resolve s = s ++ yamlExt := by simp [resolve, he]
    simp [he, hr]
  · by_cases hr : resolve s = s
    · exact ⟨[], [], by simp [he, hr], by simp⟩
    · refine ⟨[s], [], by simp [he, hr], ?_⟩
      intro c hc t ht
      have hc : c = s := by simpa using hc
      subst hc
      have := resolve_ext_ne_yml t
      rw [ht] at this
      exact this (ext_yml_of_resolve_ne c he hr)

theorem findsOwnFile_true (s : List Char) : findsOwnFile s = true := by
  obtain ⟨pre, post, h, _⟩ := find_first_hit s
  simp [findsOwnFile, h]

theorem findsOwnFilePre_yml (n : List Char) : findsOwnFilePre (n ++ ymlExt) = false := by
  have h1 := splitExt_append n ['y', 'm', 'l'] yml_nodot
  have h2 := resolve_yml n
  simp only [ymlExt] at h2
  have : n ++ yamlExt ≠ n ++ ['.', 'y', 'm', 'l'] := fun e => by
    have := List.append_cancel_left e
    revert this; decide
  simp [findsOwnFilePre, findCandidatesPre, ymlExt, h1, h2, this]

theorem get_firstIdx (x : List Char) (l : List (List Char)) (h : x ∈ l) : l[firstIdx x l]? = some x := by
  induction l with
  | nil => cases h
  | cons y ys ih =>
    by_cases hy : y = x
    · simp [firstIdx, hy]
    · have : x ∈ ys := by
        rcases List.mem_cons.mp h with rfl | h
        · exact absurd rfl hy
        · exact h
      simp [firstIdx, hy, ih this]

end BdModel.Defs
