import BdModel.Proofs.Lock
/- Mutual exclusion of the lock + socket protocol. `LockInv`: whoever could open the DAG file and is at a lock-holding
   program counter holds its lock, whatever the sockets are called. `Excl`, for a file all of whose agents can open it
   and reach it under one spelling of its path: at most one agent between its probe and the close of its endpoint, and
   the socket path is in the state that agent relies on (so its bind never fails). -/
namespace BdModel.Lock

/-- past the probe, not yet listening -/
def inWindow : Pc → Bool
  | .removeOld | .histOpen | .firstWrite | .unlink | .bind | .listen => true
  | _ => false

/-- listening, endpoint not yet closed -/
def holding : Pc → Bool
  | .steps | .handlers | .finalWrite | .unlock | .shutClose => true
  | _ => false

/-- between "passed the already-running check" and "endpoint closed" -/
def inRegion (pc : Pc) : Bool := inWindow pc || holding pc

/-- program counters at which an agent that could open the file holds the lock -/
def holdsLock : Pc → Bool
  | .probe | .removeOld | .histOpen | .firstWrite | .unlink | .bind | .listen
  | .steps | .handlers | .finalWrite | .unlock | .failUnlock => true
  | _ => false

/-- the bind-failure path -/
def failing : Pc → Bool
  | .failUnlock | .failClose | .bindFailed => true
  | _ => false

/-- every agent of DAG file `d` can open the file (so takes the lock) -/
def OpenDag (w : World) (d : Nat) : Prop := ∀ c, (w.agents c).dag = d → (w.agents c).canOpen = true

@[simp] theorem holding_afterListen (ag : Agent) : holding (afterListen ag) = true :=
  afterListen_cases (holding · = true) rfl rfl rfl ag
@[simp] theorem inWindow_afterListen (ag : Agent) : inWindow (afterListen ag) = false :=
  afterListen_cases (inWindow · = false) rfl rfl rfl ag
@[simp] theorem holdsLock_afterListen (ag : Agent) : holdsLock (afterListen ag) = true :=
  afterListen_cases (holdsLock · = true) rfl rfl rfl ag
@[simp] theorem failing_afterListen (ag : Agent) : failing (afterListen ag) = false :=
  afterListen_cases (failing · = false) rfl rfl rfl ag

theorem inWindow_holdsLock {pc : Pc} (h : inWindow pc = true) : holdsLock pc = true := by
  cases pc <;> first | rfl | cases h
theorem window_region {pc : Pc} (h : inWindow pc = true) : inRegion pc = true := by simp [inRegion, h]

theorem enter_region {w w' : World} {a : Nat} {act : Act} (h : step w a act = some w')
    (hr : inRegion (w'.agents a).pc = true) :
    inRegion (w.agents a).pc = true ∨
      (act = .probe ∧ (w.agents a).pc = .probe ∧ ∀ b, w.ns (w.agents a).sock ≠ .bound b true) := by
  unfold step at h
  revert h
  fun_cases stepAg w a (w.agents a) act <;> intro h <;> cases h
  all_goals simp only [setNs_agents, setLk_agents, release_agents, setAgent_same] at hr
  -- the probe that is not answered
  case case8 => rename_i hpc hna; exact .inr ⟨rfl, hpc, hna⟩
  -- kill: a dead agent is outside the region
  case case26 | case27 | case28 => cases hr
  -- everywhere else the new program counter is outside the region or the old one was inside
  all_goals (rw [‹(w.agents a).pc = _›]
             simp only [↓inWindow_afterListen, ↓holding_afterListen, ↓apply_ite inRegion, inRegion, inWindow, holding,
               Bool.or_true, Bool.or_false, Bool.false_eq_true, ite_self, true_or] at hr ⊢)

theorem ns_changed {w w' : World} {a : Nat} {act : Act} (h : step w a act = some w') (e : Nat)
    (hc : w'.ns e ≠ w.ns e) :
    e = (w.agents a).sock ∧
      (inRegion (w.agents a).pc = true ∨ (act = .kill ∧ ∃ l, w.ns e = .bound a l)) := by
  -- by the frame only the actor's own path can be the one
  have hd : e = (w.agents a).sock := Decidable.byContradiction fun hd => hc (step_ns_other h e hd)
  refine ⟨hd, ?_⟩
  subst hd
  unfold step at h
  revert h
  fun_cases stepAg w a (w.agents a) act <;> intro h <;> cases h
  -- unlink, bind, listen by the owner, shutClose write the path: all in the region
  case case12 | case13 | case15 | case22 => exact .inl (by rw [‹(w.agents a).pc = _›]; rfl)
  -- kill of the owner makes its path stale
  case case26 => exact .inr ⟨rfl, _, ‹_›⟩
  -- no other action writes the path
  all_goals exact absurd (by simp) hc

theorem enter_failing {w w' : World} {a : Nat} {act : Act} (h : step w a act = some w')
    (hf : failing (w'.agents a).pc = true) :
    failing (w.agents a).pc = true ∨ ((w.agents a).pc = .bind ∧ w.ns (w.agents a).sock ≠ .absent) := by
  unfold step at h
  revert h
  fun_cases stepAg w a (w.agents a) act <;> intro h <;> cases h
  all_goals simp only [setNs_agents, setLk_agents, release_agents, setAgent_same] at hf
  -- the bind that fails
  case case14 => exact .inr ⟨‹_›, ‹_›⟩
  -- kill: a dead agent is not on the path
  case case26 | case27 | case28 => cases hf
  -- everywhere else the new program counter is not on the bind-failure path or the old one was
  all_goals (rw [‹(w.agents a).pc = _›]
             simp only [↓failing_afterListen, ↓apply_ite failing, failing, Bool.false_eq_true, ite_self, true_or] at hf ⊢)

theorem own_lock {w w' : World} {a : Nat} {act : Act} (h : step w a act = some w')
    (hl : holdsLock (w'.agents a).pc = true) (hopen : (w.agents a).canOpen = true)
    (hinv : holdsLock (w.agents a).pc = true → w.lk (w.agents a).dag = some a) :
    w'.lk (w.agents a).dag = some a := by
  unfold step at h
  revert h
  fun_cases stepAg w a (w.agents a) act <;> intro h <;> cases h
  all_goals simp only [setNs_agents, setLk_agents, release_agents, setAgent_same] at hl
  -- lock: the lock was free and is the actor's now
  case case4 => simp
  -- lock skipped because the file cannot be opened: not this agent
  case case6 => exact absurd hopen ‹_›
  -- everywhere else: the new program counter holds no lock (so for every action that releases it), or the lock table
  -- is not written and the old program counter was lock-holding too
  all_goals (simp only [↓holdsLock_afterListen, ↓apply_ite holdsLock, holdsLock, Bool.false_eq_true, ite_self,
               setNs_lk, setAgent_lk] at hl ⊢ <;>
             exact hinv (by rw [‹(w.agents a).pc = _›]; rfl))

theorem lock_kept {w w' : World} {a x : Nat} {act : Act} (h : step w a act = some w') (hx : x ≠ a) (d : Nat)
    (hl : w.lk d = some x) : w'.lk d = some x := by
  -- by the frame only the lock of the actor's own file is in question
  refine if hd : d = (w.agents a).dag then ?_ else (by rw [(step_frame h).2.2 d hd]; exact hl)
  subst hd
  unfold step at h
  revert h
  fun_cases stepAg w a (w.agents a) act <;> intro h <;> cases h
  -- lock: the lock is held, so the actor is refused and takes nothing (the branch that takes it is excluded)
  case case4 => rw [hl] at *; contradiction
  -- probe that refuses, unlock, kill: `release` clears the entry only if it names the actor, and this one names `x ≠ a`
  case case7 | case21 | case24 | case26 | case27 | case28 => simp [release_lk, hl, hx]
  -- no other action writes the lock table
  all_goals simpa using hl

/-- an agent that could open the DAG file and is at a lock-holding program counter holds the lock of that file —
    whatever socket names the agents use -/
def LockInv (w : World) : Prop :=
  ∀ a, (w.agents a).canOpen = true → holdsLock (w.agents a).pc = true → w.lk (w.agents a).dag = some a

theorem step_lockInv {w w' : World} {a : Nat} {act : Act} (inv : LockInv w) (h : step w a act = some w') :
    LockInv w' := by
  intro x hopen hl
  by_cases hxa : x = a
  · subst hxa
    obtain ⟨hdag, -, hcan⟩ := step_const h x
    rw [hcan] at hopen
    rw [hdag]
    exact own_lock h hl hopen (inv x hopen)
  · rw [step_other h x hxa] at hopen hl ⊢
    exact lock_kept h hxa _ (inv x hopen hl)

theorem reach_lockInv {w : World} (hw : Reach w) : LockInv w := by
  refine reach_ind (P := LockInv) (fun cfgs a _ hl => ?_) (fun _ _ _ _ inv => step_lockInv inv) hw
  rcases init_pc cfgs a with e | e <;> rw [e] at hl <;> cases hl

/-- DAG file `d` is reached under ONE spelling of its path: its agents, and only they, use socket name `s` -/
def OneSpelling (w : World) (d s : Nat) : Prop := ∀ c, (w.agents c).dag = d ↔ (w.agents c).sock = s

/-- the state of its socket path that agent `a` relies on, by program counter: free when it is about to bind, its own
    and bound when it is about to listen, its own and listening while it holds the endpoint -/
def expects (a : Nat) : Pc → Option Sock
  | .bind => some .absent
  | .listen => some (.bound a false)
  | pc => if holding pc then some (.bound a true) else none

theorem expects_holding {a : Nat} {pc : Pc} (h : holding pc = true) : expects a pc = some (.bound a true) := by
  cases pc <;> first | rfl | cases h

@[simp] theorem expects_afterListen (a : Nat) (ag : Agent) : expects a (afterListen ag) = some (.bound a true) :=
  expects_holding (holding_afterListen ag)

theorem expects_region {a : Nat} {pc : Pc} {s : Sock} (h : expects a pc = some s) : inRegion pc = true := by
  cases pc <;> first | rfl | cases h

theorem expects_owner {a c : Nat} {pc : Pc} {l : Bool} (h : expects a pc = some (.bound c l)) : c = a := by
  cases pc <;> first | (cases h; rfl) | cases h

/-- the invariant of DAG file `d` with socket name `s` -/
structure Excl (w : World) (d s : Nat) : Prop where
  /-- at most one agent between its probe and the close of its endpoint -/
  one : ∀ a b, a ≠ b → (w.agents a).dag = d → (w.agents b).dag = d →
          ¬ (inRegion (w.agents a).pc = true ∧ inRegion (w.agents b).pc = true)
  /-- the socket path is in the state its agents rely on -/
  path : ∀ a, (w.agents a).dag = d → ∀ s0, expects a (w.agents a).pc = some s0 → w.ns s = s0
  /-- nobody is on the bind-failure path -/
  nofail : ∀ a, (w.agents a).dag = d → failing (w.agents a).pc = false

theorem own_sock {w w' : World} {a : Nat} {act : Act} (h : step w a act = some w')
    (inv : ∀ s0, expects a (w.agents a).pc = some s0 → w.ns (w.agents a).sock = s0) (s0 : Sock)
    (he : expects a (w'.agents a).pc = some s0) : w'.ns (w.agents a).sock = s0 := by
  unfold step at h
  revert h
  fun_cases stepAg w a (w.agents a) act <;> intro h <;> cases h
  all_goals simp only [setNs_agents, setLk_agents, release_agents, setAgent_same] at he
  -- unlink, bind: the action itself leaves the path free / bound
  case case12 | case13 => cases he; simp
  -- listen: what was relied on says the path is the actor's and bound (`hi`), so this is the owner's branch, and
  -- the path is listening afterwards
  case case15 | case16 | case17 => have hi := inv _ (by rw [‹(w.agents a).pc = _›]; rfl); simp_all
  -- execStep, handler, finalWrite, unlock: a listening path of its own was relied on (`hi`), is relied on, and is
  -- left alone
  case case18 | case19 | case20 | case21 =>
    have hi := inv _ (by rw [‹(w.agents a).pc = _›]; rfl)
    simp only [↓expects_afterListen, ↓apply_ite (expects a), expects, holding, ite_self, if_true, Option.some.injEq] at he
    subst he
    simpa using hi
  -- everywhere else nothing is relied on at the new program counter
  all_goals simp [↓apply_ite (expects a), expects, holding] at he

theorem step_excl {w w' : World} {a : Nat} {act : Act} {d s : Nat} (hopen : OpenDag w d) (hone : OneSpelling w d s)
    (linv : LockInv w) (inv : Excl w d s) (h : step w a act = some w') : Excl w' d s := by
  have hdag : ∀ b, (w'.agents b).dag = (w.agents b).dag := fun b => let ⟨hd, _, _⟩ := step_const h b; hd
  have hoth : ∀ b, b ≠ a → w'.agents b = w.agents b := step_other h
  -- the actor does not join another agent of the file in the region
  have no_join : ∀ x, x ≠ a → (w.agents x).dag = d → (w.agents a).dag = d → inRegion (w.agents x).pc = true →
      inRegion (w'.agents a).pc = true → False := by
    intro x hx hd hda hrx hra
    rcases enter_region h hra with hold | ⟨_, hpc, hnb⟩
    · exact inv.one x a hx hd hda ⟨hrx, hold⟩
    · by_cases hw : inWindow (w.agents x).pc = true
      · -- both would hold the lock
        have hla := linv a (hopen a hda) (by rw [hpc]; rfl)
        rw [hda, ← hd, linv x (hopen x hd) (inWindow_holdsLock hw)] at hla
        injection hla with e; exact hx e
      · -- `x` holds the endpoint, so the probe was answered
        have hh : holding (w.agents x).pc = true := by simpa [inRegion, hw] using hrx
        have hb := inv.path x hd _ (expects_holding hh)
        rw [← (hone a).1 hda] at hb
        exact hnb x hb
  -- while another agent of the file relies on the socket path, the action leaves the path alone
  have path_kept : ∀ x, x ≠ a → (w.agents x).dag = d → ∀ s0, expects x (w.agents x).pc = some s0 → w'.ns s = w.ns s := by
    intro x hx hdx s0 he
    apply Decidable.byContradiction
    intro hc
    obtain ⟨hs, hwho⟩ := ns_changed h s hc
    rcases hwho with hreg | ⟨_, l, hl⟩
    · exact inv.one x a hx hdx ((hone a).2 hs.symm) ⟨expects_region he, hreg⟩
    · rw [inv.path x hdx s0 he] at hl
      subst hl
      exact hx (expects_owner he).symm
  refine ⟨?_, ?_, ?_⟩
  · intro x y hxy hdx hdy ⟨hx, hy⟩
    rw [hdag x] at hdx; rw [hdag y] at hdy
    by_cases hxa : x = a
    · subst hxa
      have hya : y ≠ x := fun e => hxy e.symm
      rw [hoth y hya] at hy
      exact no_join y hya hdy hdx hy hx
    · by_cases hya : y = a
      · subst hya
        rw [hoth x hxa] at hx
        exact no_join x hxa hdx hdy hx hy
      · rw [hoth x hxa] at hx; rw [hoth y hya] at hy
        exact inv.one x y hxy hdx hdy ⟨hx, hy⟩
  · intro x hdx s0 he
    rw [hdag x] at hdx
    by_cases hxa : x = a
    · subst hxa
      have hsx := (hone x).1 hdx
      rw [← hsx]
      exact own_sock h (fun s1 h1 => by rw [hsx]; exact inv.path x hdx s1 h1) s0 he
    · rw [hoth x hxa] at he
      rw [path_kept x hxa hdx s0 he]
      exact inv.path x hdx s0 he
  · intro x hdx
    rw [hdag x] at hdx
    by_cases hxa : x = a
    · subst hxa
      cases hf : failing (w'.agents x).pc with
      | false => rfl
      | true =>
        rcases enter_failing h hf with hold | ⟨hpc, hne⟩
        · rw [inv.nofail x hdx] at hold; cases hold
        · rw [(hone x).1 hdx] at hne
          exact absurd (inv.path x hdx _ (by rw [hpc]; rfl)) hne
    · rw [hoth x hxa]; exact inv.nofail x hdx

theorem reach_excl {w : World} (h : Reach w) (d s : Nat) (hopen : OpenDag w d) (hone : OneSpelling w d s) :
    Excl w d s := by
  -- carried along with `LockInv`, which `step_excl` rests on
  refine (reach_ind (P := fun w => LockInv w ∧ (OpenDag w d → OneSpelling w d s → Excl w d s))
    (fun cfgs => ⟨reach_lockInv ⟨cfgs, [], rfl⟩, fun _ _ => ?_⟩)
    (fun w a act w' ih hs => ⟨step_lockInv ih.1 hs, fun hopen hone => ?_⟩) h).2 hopen hone
  · refine ⟨fun a b _ _ _ ⟨ha, _⟩ => ?_, fun a _ s0 he => ?_, fun a _ => ?_⟩
    · rcases init_pc cfgs a with e | e <;> rw [e] at ha <;> cases ha
    · rcases init_pc cfgs a with e | e <;> rw [e] at he <;> cases he
    · rcases init_pc cfgs a with e | e <;> rw [e] <;> rfl
  · -- `dag`, `sock` and `canOpen` are constants of the step: the hypotheses hold of `w` as well
    have hopen0 : OpenDag w d := fun c hc => by
      obtain ⟨hdag, -, hcan⟩ := step_const hs c
      rw [← hcan]; exact hopen c (by rw [hdag]; exact hc)
    have hone0 : OneSpelling w d s := fun c => by
      obtain ⟨hdag, hsock, -⟩ := step_const hs c
      rw [← hdag, ← hsock]; exact hone c
    exact step_excl hopen0 hone0 ih.1 (ih.2 hopen0 hone0) hs

end BdModel.Lock
