import BdModel.Hist.Store
/- The queries of the record-layer store read the files of ONE DAG through an insertion sort: what they answer depends
   on `filesOf s d` only, and every operation leaves `filesOf` of the DAGs it does not address as it is (`filesOf_apply`). -/
namespace BdModel.Hist

/-- for the two association lists keyed by a number, `Store.writers` and `Defs.World.defs` -/
theorem find?_filter_fst_ne {α} (l : List (Nat × α)) (n m : Nat) :
    (l.filter (fun p => p.1 != n)).find? (fun p => p.1 == m) =
      if m = n then none else l.find? (fun p => p.1 == m) := by
  rw [List.find?_filter]
  split
  · rename_i e
    exact List.find?_eq_none.mpr fun p _ => by simp [e]
  · rename_i e
    congr 1
    funext p
    by_cases hp : p.1 = m <;> simp [hp, e]

theorem map_eq_self {α} {l : List α} {f : α → α} (h : ∀ a ∈ l, f a = a) : l.map f = l :=
  (List.map_congr_left h).trans (List.map_id' l)

theorem filterMap_congr {α β} {g g' : α → Option β} {l : List α} (h : ∀ a ∈ l, g a = g' a) :
    l.filterMap g = l.filterMap g' := by
  induction l with
  | nil => rfl
  | cons a l ih =>
    rw [List.filterMap_cons, List.filterMap_cons, h a List.mem_cons_self,
      ih fun b hb => h b (List.mem_cons_of_mem _ hb)]

theorem insertBy_perm (lt : RunFile → RunFile → Bool) (x : RunFile) (l : List RunFile) :
    (insertBy lt x l).Perm (x :: l) := by
  induction l with
  | nil => simp [insertBy]
  | cons y ys ih =>
    simp only [insertBy]
    split
    · exact List.Perm.refl _
    · exact (List.Perm.cons y ih).trans (List.Perm.swap x y ys)

theorem foldl_insertBy_perm (lt : RunFile → RunFile → Bool) (l acc : List RunFile) :
    (l.foldl (fun acc x => insertBy lt x acc) acc).Perm (l ++ acc) := by
  induction l generalizing acc with
  | nil => simp
  | cons x xs ih =>
    simp only [List.foldl_cons]
    refine (ih _).trans ?_
    refine (List.Perm.append_left xs (insertBy_perm lt x acc)).trans ?_
    simp

theorem sortBy_perm (lt : RunFile → RunFile → Bool) (l : List RunFile) : (sortBy lt l).Perm l := by
  simpa [sortBy] using foldl_insertBy_perm lt l []

theorem mem_sortBy {lt : RunFile → RunFile → Bool} {l : List RunFile} {f : RunFile} : f ∈ sortBy lt l ↔ f ∈ l :=
  (sortBy_perm lt l).mem_iff

/-- "newest first": stamps never increase along the list -/
def Desc (l : List RunFile) : Prop := l.Pairwise (fun a b => b.stamp ≤ a.stamp)

theorem nameLt_stamp {a b : RunFile} (h : nameLt b a = true) : b.stamp ≤ a.stamp := by
  simp only [nameLt, Bool.or_eq_true, Bool.and_eq_true, decide_eq_true_eq, beq_iff_eq] at h
  rcases h with h | h
  · omega
  · omega

theorem not_nameLt_stamp {a b : RunFile} (h : ¬ nameLt b a = true) : a.stamp ≤ b.stamp := by
  simp only [nameLt, Bool.or_eq_true, Bool.and_eq_true, decide_eq_true_eq, beq_iff_eq, not_or] at h
  omega

theorem insertBy_desc (x : RunFile) (l : List RunFile) (h : Desc l) :
    Desc (insertBy (fun a b => nameLt b a) x l) := by
  induction l with
  | nil => simp [insertBy, Desc]
  | cons y ys ih =>
    simp only [insertBy]
    have hy := List.pairwise_cons.mp h
    split
    · rename_i hlt
      have hlt' : y.stamp ≤ x.stamp := nameLt_stamp hlt
      refine List.pairwise_cons.mpr ⟨?_, h⟩
      intro z hz
      rcases List.mem_cons.mp hz with rfl | hz
      · exact hlt'
      · have := hy.1 z hz; omega
    · rename_i hlt
      have hge : x.stamp ≤ y.stamp := not_nameLt_stamp hlt
      refine List.pairwise_cons.mpr ⟨?_, ih hy.2⟩
      intro z hz
      rcases List.mem_cons.mp ((insertBy_perm _ x ys).mem_iff.mp hz) with rfl | hz
      · exact hge
      · exact hy.1 z hz

theorem newestFirst_desc (l : List RunFile) : Desc (newestFirst l) :=
  List.foldlRecOn l _ List.Pairwise.nil fun acc h x _ => insertBy_desc x acc h

theorem mem_newestFirst {l : List RunFile} {f : RunFile} : f ∈ newestFirst l ↔ f ∈ l := mem_sortBy

/-- the files of one DAG (its directory), in store order -/
def filesOf (s : Store) (d : Nat) : List RunFile := s.files.filter (fun f => f.dag == d)

theorem glob_eq (s : Store) (d : Nat) : glob s d = sortBy nameLt (filesOf s d) := rfl

theorem mem_filesOf {s : Store} {d : Nat} {f : RunFile} : f ∈ filesOf s d ↔ f ∈ s.files ∧ f.dag = d := by
  rw [filesOf, List.mem_filter, beq_iff_eq]

theorem mem_glob {s : Store} {d : Nat} {f : RunFile} : f ∈ glob s d ↔ f ∈ s.files ∧ f.dag = d := by
  rw [glob_eq, mem_sortBy, mem_filesOf]

theorem head_filterMap_desc {α} (p : RunFile → Option α) (l : List RunFile) (hd : Desc l) (a : α)
    (h : (l.filterMap p).head? = some a) :
    ∃ f ∈ l, p f = some a ∧ ∀ g ∈ l, (p g).isSome → g.stamp ≤ f.stamp := by
  rw [List.head?_filterMap, List.findSome?_eq_some_iff] at h
  obtain ⟨l₁, f, l₂, rfl, hf, hnone⟩ := h
  refine ⟨f, by simp, hf, fun g hg hs => ?_⟩
  rcases List.mem_append.mp hg with hg | hg
  · rw [hnone g hg] at hs; cases hs
  · rcases List.mem_cons.mp hg with rfl | hg
    · exact Nat.le_refl _
    · have hl₂ : Desc (f :: l₂) := (List.pairwise_append.mp hd).2.1
      exact List.rel_of_pairwise_cons hl₂ hg

theorem queries_congr {s s' : Store} {d : Nat} (h : filesOf s' d = filesOf s d) :
    (∀ r, find s' d r = find s d r) ∧ latest s' d = latest s d ∧ ∀ n, recent s' d n = recent s d n := by
  have hg : glob s' d = glob s d := by rw [glob_eq, glob_eq, h]
  refine ⟨fun r => ?_, ?_, fun n => ?_⟩ <;> simp [find, latest, recent, hg]

/-! `Op` = the six operations of `COp` (Hist/Crash.lean: what a crash can interrupt) and the test harness' `age`. -/

inductive Op
  | openRun (w d t r8 : Nat)
  | write (w : Nat) (l : Line)
  | close (w : Nat)
  | update (d : Nat) (l : Line)
  | removeOld (d days : Nat)
  | age (d days : Nat)
  | rename (d d2 : Nat)

def apply (s : Store) : Op → Store
  | .openRun w d t r8 => openRun s w d t r8
  | .write w l => write s w l
  | .close w => close s w
  | .update d l => (update s d l).1
  | .removeOld d days => removeOld s d days
  | .age d days => ageFiles s d days
  | .rename d d2 => rename s d d2

def touches (s : Store) : Op → List Nat
  | .openRun _ d _ _ => [d]
  | .write w _ => ((writerKey s w).map (·.dag)).toList
  | .close w => ((writerKey s w).map (·.dag)).toList
  | .update d _ => [d]
  | .removeOld d _ => [d]
  | .age d _ => [d]
  | .rename d d2 => [d, d2]

/-! three ways a list of files changes without the files of DAG `d` changing -/

theorem filter_dag_map {F : RunFile → RunFile} {d : Nat} {l : List RunFile}
    (h : ∀ f ∈ l, F f = f ∨ (f.dag ≠ d ∧ (F f).dag ≠ d)) :
    (l.map F).filter (fun f => f.dag == d) = l.filter (fun f => f.dag == d) := by
  induction l with
  | nil => rfl
  | cons f fs ih =>
    have ih' := ih fun g hg => h g (List.mem_cons_of_mem _ hg)
    rcases h f List.mem_cons_self with e | ⟨h1, h2⟩
    · rw [List.map_cons, e, List.filter_cons, List.filter_cons, ih']
    · rw [List.map_cons, List.filter_cons_of_neg (by simpa using h2), List.filter_cons_of_neg (by simpa using h1), ih']

theorem filter_dag_filter {p : RunFile → Bool} {d : Nat} {l : List RunFile} (h : ∀ f ∈ l, f.dag = d → p f = true) :
    (l.filter p).filter (fun f => f.dag == d) = l.filter (fun f => f.dag == d) := by
  rw [List.filter_filter]
  refine List.filter_congr fun f hf => ?_
  by_cases e : f.dag = d
  · simp [e, h f hf e]
  · simp [e]

theorem filter_dag_append {d : Nat} {l l' : List RunFile} (h : ∀ f ∈ l', f.dag ≠ d) :
    (l ++ l').filter (fun f => f.dag == d) = l.filter (fun f => f.dag == d) := by
  rw [List.filter_append, List.filter_eq_nil_iff (l := l') |>.mpr fun f hf => by simpa using h f hf, List.append_nil]

theorem filesOf_modifyFile (s : Store) (k : Key) (g : RunFile → RunFile) (d' : Nat)
    (hg : ∀ f, (g f).dag = f.dag) (hk : k.dag ≠ d') :
    filesOf (modifyFile s k g) d' = filesOf s d' := by
  refine filter_dag_map fun f _ => ?_
  split
  · rename_i e
    have hd : f.dag ≠ d' := fun e' => hk (e ▸ e')
    exact Or.inr ⟨hd, (hg f).symm ▸ hd⟩
  · exact Or.inl rfl

theorem filesOf_appendLine (s : Store) (k : Key) (l : Line) (d' : Nat) (hk : k.dag ≠ d') :
    filesOf (appendLine s k l) d' = filesOf s d' :=
  filesOf_modifyFile s k _ d' (fun _ => rfl) hk

theorem find_some {s : Store} {d r : Nat} {f : RunFile} {l : Line} (h : find s d r = some (f, l)) :
    f ∈ s.files ∧ f.dag = d ∧ parse f = some l ∧ l.req = r := by
  unfold find at h
  have hm := List.mem_of_mem_head? h
  rw [List.mem_filterMap] at hm
  obtain ⟨g, hg, hb⟩ := hm
  rw [List.mem_reverse, mem_glob] at hg
  obtain ⟨l', hp, hb⟩ := Option.bind_eq_some_iff.mp hb
  split at hb
  · rename_i hr
    cases hb
    exact ⟨hg.1, hg.2, hp, hr⟩
  · cases hb

theorem find_none {s : Store} {d r : Nat} (h : find s d r = none) :
    ∀ f ∈ s.files, f.dag = d → ∀ l, parse f = some l → l.req ≠ r := by
  intro f hf hd l hl hr
  unfold find at h
  rw [List.head?_eq_none_iff, List.filterMap_eq_nil_iff] at h
  have := h f (by rw [List.mem_reverse, mem_glob]; exact ⟨hf, hd⟩)
  simp [hl, hr] at this

theorem filesOf_apply (s : Store) (op : Op) (d' : Nat) (h : d' ∉ touches s op) :
    filesOf (apply s op) d' = filesOf s d' := by
  cases op with
  | openRun w d t r8 =>
    have hd : d ≠ d' := by simpa [touches, eq_comm] using h
    simp only [apply, openRun]
    split
    · rfl
    · exact filter_dag_append fun f hf => List.mem_singleton.mp hf ▸ hd
  | write w l =>
    simp only [apply, write]
    cases hw : writerKey s w with
    | none => rfl
    | some k => exact filesOf_appendLine s k l d' (by simpa [touches, hw, eq_comm] using h)
  | close w =>
    simp only [apply, close]
    cases hw : writerKey s w with
    | none => rfl
    | some k =>
      have hd : k.dag ≠ d' := by simpa [touches, hw, eq_comm] using h
      simp only
      split
      · rfl
      · refine (filter_dag_filter fun f _ e => ?_).trans ?_
        · exact bne_iff_ne.mpr fun ek => hd (ek ▸ e)
        · split
          · exact filesOf_appendLine _ _ _ d' hd
          · exact filter_dag_append fun f hf => List.mem_singleton.mp hf ▸ hd
  | update d l =>
    have hd : d ≠ d' := by simpa [touches, eq_comm] using h
    simp only [apply, update]
    cases hf : find s d l.req with
    | none => rfl
    | some p =>
      have hp : p.1.dag ≠ d' := (find_some hf).2.1.symm ▸ hd
      exact filesOf_appendLine s p.1.key l d' hp
  | removeOld d days =>
    have hd : d ≠ d' := by simpa [touches, eq_comm] using h
    refine filter_dag_filter fun f _ e => ?_
    simp [e, Ne.symm hd]
  | age d days =>
    have hd : d ≠ d' := by simpa [touches, eq_comm] using h
    refine filter_dag_map fun f _ => ?_
    split
    · rename_i e; exact Or.inr ⟨e ▸ hd, e ▸ hd⟩
    · exact Or.inl rfl
  | rename d d2 =>
    have hd : d ≠ d' ∧ d2 ≠ d' := by simpa [touches, eq_comm, not_or] using h
    simp only [apply, rename]
    split
    · rfl
    · refine (filter_dag_append fun f hf => ?_).trans (filter_dag_filter fun f _ e => ?_)
      · obtain ⟨g, _, rfl⟩ := List.mem_map.mp hf
        exact hd.2
      · have hany : ((glob s d).map fun f => ({ f with dag := d2 } : RunFile)).any (fun m => m.key == f.key) = false := by
          rw [List.any_eq_false]
          intro m hm ek
          obtain ⟨g, _, rfl⟩ := List.mem_map.mp hm
          exact hd.2 ((congrArg Key.dag (beq_iff_eq.mp ek)).trans e)
        simp [e, Ne.symm hd.1, hany]

/-- request id of the status a file ends in -/
def reqOf (f : RunFile) : Option Nat := (parse f).map (·.req)

theorem dedup_sublist (l : List RunFile) (seen : List Nat) : (dedupFiles l seen).Sublist l := by
  induction l generalizing seen with
  | nil => simp [dedupFiles]
  | cons f fs ih =>
    simp only [dedupFiles]
    split
    · exact (ih seen).cons f
    · split
      · exact (ih seen).cons f
      · exact (ih _).cons_cons f

/-- `seen` (and, below, the disjunct `ln.req ∈ seen`) is there for the induction only: both lemmas are used at `seen = []` -/
theorem dedup_spec (l : List RunFile) (seen : List Nat) :
    (∀ f ∈ dedupFiles l seen, ∃ ln, parse f = some ln ∧ ln.req ∉ seen) ∧
    ((dedupFiles l seen).filterMap reqOf).Nodup := by
  induction l generalizing seen with
  | nil => simp [dedupFiles]
  | cons f fs ih =>
    simp only [dedupFiles]
    split
    · exact ih seen
    · rename_i ln hp
      split
      · exact ih seen
      · rename_i hns
        have hns' : ln.req ∉ seen := by simpa using hns
        obtain ⟨h1, h2⟩ := ih (ln.req :: seen)
        constructor
        · intro g hg
          rcases List.mem_cons.mp hg with rfl | hg
          · exact ⟨ln, hp, hns'⟩
          · obtain ⟨lg, hlg, hnot⟩ := h1 g hg
            exact ⟨lg, hlg, fun hm => hnot (List.mem_cons_of_mem _ hm)⟩
        · have hr : reqOf f = some ln.req := by simp [reqOf, hp]
          rw [List.filterMap_cons_some hr, List.nodup_cons]
          refine ⟨?_, h2⟩
          intro hm
          rw [List.mem_filterMap] at hm
          obtain ⟨g, hg, hgr⟩ := hm
          obtain ⟨lg, hlg, hnot⟩ := h1 g hg
          simp only [reqOf, hlg, Option.map_some, Option.some.injEq] at hgr
          exact hnot (by rw [hgr]; exact List.mem_cons_self)

theorem dedup_complete (l : List RunFile) (seen : List Nat) (hd : Desc l) :
    ∀ g ∈ l, ∀ ln, parse g = some ln →
      ln.req ∈ seen ∨ ∃ f ∈ dedupFiles l seen, reqOf f = some ln.req ∧ g.stamp ≤ f.stamp := by
  induction l generalizing seen with
  | nil => intro g hg; cases hg
  | cons f fs ih =>
    have hy := List.pairwise_cons.mp hd
    intro g hg ln hgl
    simp only [dedupFiles]
    rcases List.mem_cons.mp hg with rfl | hg
    · simp only [hgl]
      split
      · rename_i hs; exact Or.inl (by simpa using hs)
      · exact Or.inr ⟨g, List.mem_cons_self, by simp [reqOf, hgl], Nat.le_refl _⟩
    · split
      · exact ih seen hy.2 g hg ln hgl
      · rename_i lf hpf
        split
        · exact ih seen hy.2 g hg ln hgl
        · rcases ih (lf.req :: seen) hy.2 g hg ln hgl with h | ⟨f', hf', hr, hle⟩
          · rcases List.mem_cons.mp h with h | h
            · exact Or.inr ⟨f, List.mem_cons_self, by simp [reqOf, hpf, h], hy.1 g hg⟩
            · exact Or.inl h
          · exact Or.inr ⟨f', List.mem_cons_of_mem _ hf', hr, hle⟩

end BdModel.Hist
