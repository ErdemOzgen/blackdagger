import BdModel.Hist.Cache
/-
  Why the read cache (Hist/Cache.lean) never hides a status: an entry was taken from a version of its file that is
  not longer than the present one, and a file only grows while it exists under one name (no name is created twice),
  so equal sizes mean equal data (`Coh`, `Coherent`). Every operation changes the state at one name only.
-/
namespace BdModel.Hist.Cache

theorem upd_same {α : Type} {m : Nat → Option α} {f : Nat} {v : Option α} : upd m f v f = v := by
  simp [upd]

theorem upd_other {α : Type} {m : Nat → Option α} {f g : Nat} {v : Option α} (h : g ≠ f) : upd m f v g = m g := by
  simp [upd, h]

theorem upd_id {α : Type} {m : Nat → Option α} {f : Nat} {v : Option α} (h : m f = v) : upd m f v = m := by
  funext g
  by_cases hg : g = f
  · subst hg; simp [upd, h]
  · simp [upd, hg]

theorem applyWrite_size (fi : File) (w : Write) : (applyWrite fi w).size = fi.size + w.grow + 1 := rfl

theorem applyWrites_nil (fi : File) : applyWrites fi [] = fi := rfl

theorem applyWrites_cons (fi : File) (w : Write) (ws : List Write) :
    applyWrites fi (w :: ws) = applyWrites (applyWrite fi w) ws := rfl

theorem applyWrites_append (fi : File) (a b : List Write) :
    applyWrites fi (a ++ b) = applyWrites (applyWrites fi a) b := by
  simp [applyWrites, List.foldl_append]

theorem applyWrites_size_le (fi : File) (ws : List Write) : fi.size ≤ (applyWrites fi ws).size := by
  induction ws generalizing fi with
  | nil => exact Nat.le_refl _
  | cons w ws ih =>
    rw [applyWrites_cons]
    have := ih (applyWrite fi w)
    rw [applyWrite_size] at this
    omega

theorem applyWrites_size_lt (fi : File) (ws : List Write) (h : ws ≠ []) : fi.size < (applyWrites fi ws).size := by
  cases ws with
  | nil => exact absurd rfl h
  | cons w ws =>
    rw [applyWrites_cons]
    have := applyWrites_size_le (applyWrite fi w) ws
    rw [applyWrite_size] at this
    omega

/-- the entry was taken from a version of the file that is not longer than the present one, the file
    holds a status, and if the lengths agree the entry holds the file's present last status -/
def Coh (e : Entry) (fi : File) : Prop :=
  e.size ≤ fi.size ∧ 0 < fi.size ∧ (e.size = fi.size → e.data = fi.data)

theorem coh_write {e : Entry} {fi : File} (w : Write) (h : Coh e fi) : Coh e (applyWrite fi w) := by
  obtain ⟨h1, h2, _⟩ := h
  refine ⟨?_, ?_, ?_⟩ <;> rw [applyWrite_size] <;> omega

theorem coh_writes {e : Entry} {fi : File} (ws : List Write) (h : Coh e fi) : Coh e (applyWrites fi ws) :=
  List.foldlRecOn ws applyWrite h fun _ h w _ => coh_write w h

/-- the entry `Store` builds from the stat of step 1 and the data read after `pre`, against the file
    after `pre ++ post` -/
theorem coh_store (fi : File) (pre post : List Write) (hne : (applyWrites fi pre).size ≠ 0) :
    Coh ⟨(applyWrites fi pre).data, fi.size, fi.mtime⟩ (applyWrites (applyWrites fi pre) post) := by
  have h1 := applyWrites_size_le fi pre
  have h2 := applyWrites_size_le (applyWrites fi pre) post
  refine ⟨by simp only; omega, by omega, ?_⟩
  intro heq
  simp only at heq
  cases pre with
  | cons w ws =>
    have := applyWrites_size_lt fi (w :: ws) (by simp)
    omega
  | nil =>
    cases post with
    | cons w ws =>
      have := applyWrites_size_lt fi (w :: ws) (by simp)
      simp only [applyWrites_nil] at heq
      omega
    | nil => rfl

def Coherent (s : State) : Prop :=
  ∀ f e fi, s.cache f = some e → s.files f = some fi → Coh e fi

/-- names outside `cr` (the names created so far) have neither a file nor an entry -/
def Fresh (cr : List Nat) (s : State) : Prop :=
  ∀ f, f ∉ cr → s.files f = none ∧ s.cache f = none

def Inv (cr : List Nat) (s : State) : Prop := Fresh cr s ∧ Coherent s

theorem inv_init : Inv [] init := ⟨fun _ _ => ⟨rfl, rfl⟩, fun _ _ _ h => by simp [init] at h⟩

theorem Inv.mono {cr : List Nat} {s : State} (h : Inv cr s) (f : Nat) : Inv (f :: cr) s :=
  ⟨fun g hg => h.1 g fun hm => hg (List.mem_cons_of_mem _ hm), h.2⟩

/-- every operation changes the state at one name only: what is left to show is the invariant there -/
theorem Inv.change_at {cr : List Nat} {s : State} (h : Inv cr s) (f : Nat)
    {fl : Nat → Option File} {ca : Nat → Option Entry}
    (hoff : ∀ g, g ≠ f → fl g = s.files g ∧ ca g = s.cache g)
    (hfr : f ∉ cr → fl f = none ∧ ca f = none)
    (hat : ∀ e fi, ca f = some e → fl f = some fi → Coh e fi) : Inv cr ⟨fl, ca⟩ := by
  constructor
  · intro g hg
    by_cases eg : g = f
    · exact eg ▸ hfr (eg ▸ hg)
    · show fl g = none ∧ ca g = none
      rw [(hoff g eg).1, (hoff g eg).2]
      exact h.1 g hg
  · intro g e fi (hce : ca g = some e) (hfi : fl g = some fi)
    by_cases eg : g = f
    · subst eg
      exact hat e fi hce hfi
    · rw [(hoff g eg).2] at hce
      rw [(hoff g eg).1] at hfi
      exact h.2 g e fi hce hfi

theorem Inv.set_file {cr : List Nat} {s : State} (h : Inv cr s) {f : Nat} {v : Option File}
    (hfr : f ∉ cr → v = none) (hat : ∀ e fi, s.cache f = some e → v = some fi → Coh e fi) :
    Inv cr { s with files := upd s.files f v } :=
  h.change_at f (fun _ hg => ⟨upd_other hg, rfl⟩) (fun hn => ⟨upd_same.trans (hfr hn), (h.1 f hn).2⟩)
    fun e fi hce hfi => hat e fi hce (upd_same.symm.trans hfi)

/-- `Invalidate`, TTL / capacity eviction: dropping an entry needs no hypothesis -/
theorem Inv.rm_entry {cr : List Nat} {s : State} (h : Inv cr s) (f : Nat) :
    Inv cr { s with cache := upd s.cache f none } :=
  h.change_at f (fun _ hg => ⟨rfl, upd_other hg⟩) (fun hn => ⟨(h.1 f hn).1, upd_same⟩)
    fun e fi hce _ => by rw [upd_same] at hce; cases hce

theorem mem_of_file {cr : List Nat} {s : State} (h : Fresh cr s) {f : Nat} {fi : File} (hf : s.files f = some fi) :
    f ∈ cr :=
  Classical.byContradiction fun hn => by rw [(h f hn).1] at hf; cases hf

@[elab_as_elim]
theorem loadV_cases {P : State × Out → Prop} (s : State) (f : Nat) (pre post : List Write) (rm : Bool)
    (absent : s.files f = none → P (s, .errStat))
    (hit : ∀ fi e, s.files f = some fi → s.cache f = some e → isStale e fi = false → P (s, .data e.data))
    (miss : ∀ fi, s.files f = some fi → (∀ e, s.cache f = some e → isStale e fi = true) →
      P (if rm then ({ s with files := upd s.files f none }, .errLoad)
         else if (applyWrites fi pre).size = 0 then
           ({ s with files := upd s.files f (some (applyWrites (applyWrites fi pre) post)) }, .errEmpty)
         else
           ({ files := upd s.files f (some (applyWrites (applyWrites fi pre) post)),
              cache := upd s.cache f (some ⟨(applyWrites fi pre).data, fi.size, fi.mtime⟩) },
            .data (applyWrites fi pre).data))) :
    P (loadV .real s f pre post rm) := by
  unfold loadV
  cases hfile : s.files f with
  | none => exact absent hfile
  | some fi =>
    cases hce : s.cache f with
    | none => simpa using miss fi hfile (by simp [hce])
    | some e =>
      cases hst : isStale e fi with
      | false => simpa [show isStaleV .real e fi = false from hst] using hit fi e hfile hce hst
      | true =>
        simpa [show isStaleV .real e fi = true from hst] using
          miss fi hfile fun e' he => Option.some.inj (hce.symm.trans he) ▸ hst

theorem load_inv (cr : List Nat) (s : State) (f : Nat) (pre post : List Write) (rm : Bool) (h : Inv cr s) :
    Inv cr (loadV .real s f pre post rm).1 := by
  refine loadV_cases s f pre post rm (fun _ => h) (fun _ _ _ _ _ => h) fun fi hfile _ => ?_
  have hmem : f ∈ cr := mem_of_file h.1 hfile
  split
  · exact h.set_file (fun hn => absurd hmem hn) nofun
  · split
    · refine h.set_file (fun hn => absurd hmem hn) fun e fi' hce hfi => ?_
      rw [← applyWrites_append] at hfi
      exact Option.some.inj hfi ▸ coh_writes _ (h.2 f e fi hce hfile)
    · rename_i hne
      refine h.change_at f (fun g hg => ⟨upd_other hg, upd_other hg⟩) (fun hn => absurd hmem hn) ?_
      intro e fi' hce hfi
      rw [upd_same] at hce hfi
      exact Option.some.inj hce ▸ Option.some.inj hfi ▸ coh_store fi pre post hne

theorem created_append (a b : List Op) : created (a ++ b) = created a ++ created b := by
  induction a with
  | nil => rfl
  | cons op rest ih =>
    cases op <;> simp [created, ih]

theorem step_inv (cr : List Nat) (s : State) (op : Op) (h : Inv cr s) (hnew : ∀ f ∈ created [op], f ∉ cr) :
    Inv (created [op] ++ cr) (step s op).1 := by
  cases op with
  | create f w =>
    refine (h.mono f).set_file (fun hn => absurd List.mem_cons_self hn) fun e fi hce => ?_
    rw [(h.1 f (hnew f List.mem_cons_self)).2] at hce
    cases hce
  | append f w =>
    simp only [step, stepV]
    cases hfile : s.files f with
    | none => exact h
    | some fi =>
      refine h.set_file (fun hn => absurd (mem_of_file h.1 hfile) hn) fun e fi' hce hfi => ?_
      exact Option.some.inj hfi ▸ coh_write w (h.2 f e fi hce hfile)
  | remove f => exact h.set_file (fun _ => rfl) nofun
  | invalidate f => exact h.rm_entry f
  | evict f => exact h.rm_entry f
  | load f pre post => exact load_inv cr s f pre post false h
  | loadRm f pre => exact load_inv cr s f pre [] true h

theorem exec_cons (s : State) (op : Op) (ops : List Op) : exec s (op :: ops) = exec (step s op).1 ops := rfl

theorem exec_append (s : State) (a b : List Op) : exec s (a ++ b) = exec (exec s a) b := by
  simp [exec, List.foldl_append]

theorem exec_inv (ops : List Op) : ∀ (cr : List Nat) (s : State), Inv cr s → (created ops).Nodup →
    (∀ f ∈ created ops, f ∉ cr) → ∃ cr', Inv cr' (exec s ops) := by
  induction ops with
  | nil => intro cr s h _ _; exact ⟨cr, h⟩
  | cons op rest ih =>
    intro cr s h hnd hdis
    rw [show created (op :: rest) = created [op] ++ created rest from created_append [op] rest] at hnd hdis
    obtain ⟨_, hnd', hdj⟩ := List.nodup_append.mp hnd
    refine ih _ _ (step_inv cr s op h fun f hf => hdis f (List.mem_append_left _ hf)) hnd' fun g hg hm => ?_
    rcases List.mem_append.mp hm with hm | hm
    · exact hdj g hm g hg rfl
    · exact hdis g (List.mem_append_right _ hg) hm

theorem coherent_reachable (ops : List Op) (h : Admissible ops) : Coherent (exec init ops) := by
  obtain ⟨_, hinv⟩ := exec_inv ops [] init inv_init h (fun _ _ => by simp)
  exact hinv.2


theorem readOut_pos {fi : File} (h : 0 < fi.size) : readOut fi = .data fi.data :=
  if_neg (Nat.ne_of_gt h)

/-- first disjunct: the loader ran; second: the entry was used -/
theorem load_linearizable (s : State) (hc : Coherent s) (f : Nat) (fi : File) (hfile : s.files f = some fi)
    (pre post : List Write) :
    ((step s (.load f pre post)).2 = readOut (applyWrites fi pre) ∧
      (step s (.load f pre post)).1.files f = some (applyWrites fi (pre ++ post)))
    ∨ ((step s (.load f pre post)).2 = .data fi.data ∧ 0 < fi.size ∧ (step s (.load f pre post)).1 = s) := by
  show ((loadV .real s f pre post false).2 = _ ∧ (loadV .real s f pre post false).1.files f = _) ∨
    ((loadV .real s f pre post false).2 = _ ∧ _ ∧ (loadV .real s f pre post false).1 = s)
  refine loadV_cases s f pre post false (fun h => ?_) (fun fi' e hfile' hce hst => ?_) fun fi' hfile' _ => ?_
  · rw [hfile] at h; cases h
  · -- not stale means the sizes agree, and then the entry holds the file's data
    cases hfile.symm.trans hfile'
    obtain ⟨_, h2, h3⟩ := hc f e fi hce hfile
    simp only [isStale, isStaleV, Bool.or_eq_false_iff, decide_eq_false_iff_not, Decidable.not_not] at hst
    exact Or.inr ⟨by rw [h3 hst.2], h2, rfl⟩
  · cases hfile.symm.trans hfile'
    rw [applyWrites_append, readOut, if_neg Bool.false_ne_true]
    refine Or.inl ?_
    split <;> exact ⟨rfl, upd_same⟩

theorem quiet_load (s : State) (hc : Coherent s) (f : Nat) :
    (step s (.load f [] [])).2 = quietAnswer (s.files f) := by
  cases hfile : s.files f with
  | none => simp [step, stepV, loadV, hfile, quietAnswer]
  | some fi =>
    rcases load_linearizable s hc f fi hfile [] [] with ⟨h, _⟩ | ⟨h, hpos, _⟩
    · exact h
    · rw [h, quietAnswer, readOut_pos hpos]

/-- only `Variant.preF46` reaches the `panic` answer: none of the outcomes of the real code is one -/
theorem load_no_panic (s : State) (f : Nat) (pre post : List Write) (rm : Bool) :
    (loadV .real s f pre post rm).2 ≠ .panic := by
  refine loadV_cases s f pre post rm (fun _ => nofun) (fun _ _ _ _ _ => nofun) fun _ _ _ => ?_
  split
  · nofun
  · split <;> nofun

theorem load_err_cache (s : State) (f : Nat) (pre post : List Write) (rm : Bool)
    (h : (loadV .real s f pre post rm).2.isErr = true) : (loadV .real s f pre post rm).1.cache = s.cache := by
  revert h
  refine loadV_cases s f pre post rm (fun _ _ => rfl) (fun _ _ _ _ _ _ => rfl) fun _ _ _ => ?_
  split
  · exact fun _ => rfl
  · split
    · exact fun _ => rfl
    · nofun

theorem created_quiet (qs : List Op) (h : ∀ q ∈ qs, q.quiet = true) : created qs = [] := by
  induction qs with
  | nil => rfl
  | cons q rest ih =>
    have hr := ih fun q' hq' => h q' (List.mem_cons_of_mem _ hq')
    cases q with
    | create f w => exact absurd (h _ List.mem_cons_self) (by simp [Op.quiet])
    | _ => exact hr

theorem step_quiet_files (s : State) (q : Op) (h : q.quiet = true) : (step s q).1.files = s.files := by
  cases q with
  | create f w => simp [Op.quiet] at h
  | append f w => simp [Op.quiet] at h
  | remove f => simp [Op.quiet] at h
  | loadRm f pre => simp [Op.quiet] at h
  | invalidate f => rfl
  | evict f => rfl
  | load f pre post =>
    have hpp : pre = [] ∧ post = [] := by
      cases pre <;> cases post <;> simp [Op.quiet] at h ⊢
    obtain ⟨rfl, rfl⟩ := hpp
    show (loadV .real s f [] [] false).1.files = s.files
    refine loadV_cases s f [] [] false (fun _ => rfl) (fun _ _ _ _ _ => rfl) fun fi hfile _ => ?_
    rw [if_neg Bool.false_ne_true]
    split <;> exact upd_id hfile

theorem exec_quiet_files (qs : List Op) (s : State) (h : ∀ q ∈ qs, q.quiet = true) : (exec s qs).files = s.files :=
  List.foldlRecOn (motive := fun s' => s'.files = s.files) qs _ rfl fun b hb q hq =>
    (step_quiet_files b q (h q hq)).trans hb

end BdModel.Hist.Cache
