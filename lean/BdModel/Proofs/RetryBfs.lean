import BdModel.Sched.Retry
import BdModel.Proofs.Kahn
/-
  `setupRetry`'s walk by its invariant: `Walk` says what holds of the marks while a frontier is visited,
  `EndsPath` how deep the members of the `k`-th frontier lie (so the fuel suffices in an acyclic graph);
  `loop_walk` puts the two together.
-/
namespace BdModel.Retry
open BdModel.Cycle BdModel.Sched Relation

theorem updB_true {f : Nat → Bool} {i j : Nat} : updB f i true j = true ↔ j = i ∨ f j = true := by
  unfold updB
  split <;> simp [*]

theorem propagate_snd (u : Nat) : ∀ (vs : List Nat) (m : Marks) (next : List Nat),
    (propagate u vs (m, next)).2 = next ++ vs
  | [], m, next => by simp [propagate]
  | v :: vs, m, next => by
    simp only [propagate]
    rw [propagate_snd u vs]
    simp

theorem propagate_cleared (u : Nat) : ∀ (vs : List Nat) (m : Marks) (next : List Nat),
    (propagate u vs (m, next)).1.cleared = m.cleared
  | [], m, next => rfl
  | v :: vs, m, next => by
    simp only [propagate]
    rw [propagate_cleared u vs]
    split <;> rfl

theorem propagate_retry (u : Nat) : ∀ (vs : List Nat) (m : Marks) (next : List Nat) (j : Nat),
    (propagate u vs (m, next)).1.retry j = true ↔
      (m.retry j = true ∨ (m.retry u = true ∧ j ∈ vs))
  | [], m, next, j => by simp [propagate]
  | v :: vs, m, next, j => by
    simp only [propagate]
    rw [propagate_retry u vs]
    by_cases hu : m.retry u = true
    · simp [hu, updB_true, or_left_comm, or_assoc]
    · simp [hu]

variable {es : List (Nat × Nat)} {st : Nat → NStatus} {R : NStatus → Bool}

theorem processNode_snd (p : Marks × List Nat) (u : Nat) :
    (processNode es st R p u).2 = p.2 ++ succs es u := by
  obtain ⟨m, next⟩ := p
  simp only [processNode]
  rw [propagate_snd]

theorem processNode_cleared (p : Marks × List Nat) (u j : Nat) :
    (processNode es st R p u).1.cleared j = true ↔
      (p.1.cleared j = true ∨ ((p.1.retry u = true ∨ R (st u) = true) ∧ j = u)) := by
  obtain ⟨m, next⟩ := p
  simp only [processNode, Bool.or_eq_true]
  rw [propagate_cleared]
  split
  next h => simp [updB_true, h, or_comm]
  next h => simp [h]

theorem processNode_retry (p : Marks × List Nat) (u j : Nat) :
    (processNode es st R p u).1.retry j = true ↔
      (p.1.retry j = true ∨ ((p.1.retry u = true ∨ R (st u) = true) ∧ (j = u ∨ j ∈ succs es u))) := by
  obtain ⟨m, next⟩ := p
  simp only [processNode, Bool.or_eq_true]
  rw [propagate_retry]
  split
  next h => simp [updB_true, h, or_assoc, or_comm, or_left_comm]
  next h => simp [not_or.1 h]

theorem fold_snd : ∀ (fr : List Nat) (p : Marks × List Nat),
    (fr.foldl (processNode es st R) p).2 = p.2 ++ fr.flatMap (succs es)
  | [], p => by simp
  | u :: fr, p => by
    rw [List.foldl_cons, fold_snd fr, processNode_snd]
    simp

theorem level_snd (m : Marks) (fr : List Nat) : (level es st R m fr).2 = fr.flatMap (succs es) :=
  fold_snd fr (m, [])

/-- The invariant of the walk. `fr` is the part of the current frontier still to be visited, `p` the
    accumulator (marks so far, next frontier so far); a step "waits" if it is in `fr ++ p.2`.
    Once nothing waits the fields say: marked ⇒ downstream of the reset set; cleared = marked; the
    marks are closed under edges; every step of the reset set is cleared. -/
structure Walk (n : Nat) (es : List (Nat × Nat)) (st : Nat → NStatus) (R : NStatus → Bool)
    (fr : List Nat) (p : Marks × List Nat) : Prop where
  sound : ∀ v, p.1.retry v = true → ∃ u, u < n ∧ R (st u) = true ∧ ReflTransGen (Rel es) u v
  sub : ∀ v, p.1.cleared v = true → p.1.retry v = true
  pending : ∀ v, p.1.retry v = true → p.1.cleared v = true ∨ v ∈ fr ++ p.2
  succ : ∀ a b, (a, b) ∈ es → p.1.cleared a = true → p.1.retry b = true
  reset : ∀ v, v < n → R (st v) = true →
    p.1.cleared v = true ∨ ∃ a ∈ fr ++ p.2, ReflTransGen (Rel es) a v

theorem Walk.step {n u : Nat} {fr : List Nat} {p : Marks × List Nat} (hu : u < n)
    (h : Walk n es st R (u :: fr) p) : Walk n es st R fr (processNode es st R p u) := by
  have keep : ∀ a, a ∈ (u :: fr) ++ p.2 → a = u ∨ a ∈ fr ++ (processNode es st R p u).2 := by
    intro a
    simp only [processNode_snd, List.mem_append, List.mem_cons]
    rintro ((ha | ha) | ha)
    · exact Or.inl ha
    · exact Or.inr (Or.inl ha)
    · exact Or.inr (Or.inr (Or.inl ha))
  have new : ∀ b, (u, b) ∈ es → b ∈ fr ++ (processNode es st R p u).2 := by
    intro b hb
    simp only [processNode_snd, List.mem_append]
    exact Or.inr (Or.inr (mem_succs.2 hb))
  constructor
  · intro v hv
    rcases (processNode_retry p u v).1 hv with hv | ⟨hb, hj⟩
    · exact h.sound v hv
    · obtain ⟨x, hxn, hx, hxu⟩ : ∃ x, x < n ∧ R (st x) = true ∧ ReflTransGen (Rel es) x u :=
        hb.elim (h.sound u) fun hb => ⟨u, hu, hb, .refl⟩
      rcases hj with rfl | hj
      · exact ⟨x, hxn, hx, hxu⟩
      · exact ⟨x, hxn, hx, hxu.tail (mem_succs.1 hj)⟩
  · intro v hv
    rw [processNode_retry]
    rcases (processNode_cleared p u v).1 hv with hv | ⟨hb, hj⟩
    · exact Or.inl (h.sub v hv)
    · exact Or.inr ⟨hb, Or.inl hj⟩
  · intro v hv
    rw [processNode_cleared]
    rcases (processNode_retry p u v).1 hv with hv0 | ⟨hb, rfl | hj⟩
    · rcases h.pending v hv0 with h1 | h1
      · exact Or.inl (Or.inl h1)
      · rcases keep v h1 with rfl | h2
        · exact Or.inl (Or.inr ⟨Or.inl hv0, rfl⟩)
        · exact Or.inr h2
    · exact Or.inl (Or.inr ⟨hb, rfl⟩)
    · exact Or.inr (new v (mem_succs.1 hj))
  · intro a b hab ha
    rw [processNode_retry]
    rcases (processNode_cleared p u a).1 ha with ha | ⟨hb, rfl⟩
    · exact Or.inl (h.succ a b hab ha)
    · exact Or.inr ⟨hb, Or.inr (mem_succs.2 hab)⟩
  · intro v hv hb
    rw [processNode_cleared]
    rcases h.reset v hv hb with hc | ⟨a, ha, hav⟩
    · exact Or.inl (Or.inl hc)
    · rcases keep a ha with rfl | ha
      · -- the waiting ancestor is visited now: it is `v` itself, or its successor towards `v` waits
        rcases ReflTransGen.cases_head hav with rfl | ⟨b, hab, hbv⟩
        · exact Or.inl (Or.inr ⟨Or.inr hb, rfl⟩)
        · exact Or.inr ⟨b, new b hab, hbv⟩
      · exact Or.inr ⟨a, ha, hav⟩

theorem Walk.fold {n : Nat} : ∀ (fr : List Nat) (p : Marks × List Nat), (∀ u ∈ fr, u < n) →
    Walk n es st R fr p → Walk n es st R [] (fr.foldl (processNode es st R) p)
  | [], _, _, h => h
  | u :: fr, _, hfr, h =>
    Walk.fold fr _ (fun w hw => hfr w (List.mem_cons_of_mem _ hw)) (h.step (hfr u List.mem_cons_self))

theorem mem_sources {n v : Nat} : v ∈ sources n es ↔ v < n ∧ ∀ a, (a, v) ∉ es :=
  mem_seed.trans (and_congr_right fun _ => indeg_eq_zero)

theorem exists_source {n : Nat} (hE : ∀ e ∈ es, e.1 < n ∧ e.2 < n) (hA : ¬ ∃ v, TransGen (Rel es) v v) :
    ∀ v, v < n → ∃ a ∈ sources n es, ReflTransGen (Rel es) a v := by
  refine acyclic_induction hE hA fun v hv ih => ?_
  by_cases hs : v ∈ sources n es
  · exact ⟨v, hs, .refl⟩
  · obtain ⟨a, ha⟩ : ∃ a, (a, v) ∈ es := Classical.not_forall_not.1 fun hno => hs (mem_sources.2 ⟨hv, hno⟩)
    obtain ⟨s, hs, hsa⟩ := ih a ha
    exact ⟨s, hs, hsa.tail ha⟩

theorem Walk.init {n : Nat} (hE : ∀ e ∈ es, e.1 < n ∧ e.2 < n) (hA : ¬ ∃ v, TransGen (Rel es) v v) :
    Walk n es st R [] ({}, sources n es) where
  sound _ hv := nomatch hv
  sub _ hv := nomatch hv
  pending _ hv := nomatch hv
  succ _ _ _ hv := nomatch hv
  reset v hv _ := Or.inr (exists_source hE hA v hv)

/-- a level is over: the next frontier becomes the frontier -/
theorem Walk.next {n : Nat} {m : Marks} {next : List Nat} (h : Walk n es st R [] (m, next)) :
    Walk n es st R next (m, []) where
  sound := h.sound
  sub := h.sub
  pending v hv := (h.pending v hv).imp_right fun hw => List.mem_append_left _ hw
  succ := h.succ
  reset v hv hb := (h.reset v hv hb).imp_right fun ⟨a, ha, hav⟩ => ⟨a, List.mem_append_left _ ha, hav⟩

/-- `w` ends a path of `k` edges between steps below `n`: what holds of the members of the `k`-th frontier -/
def EndsPath (n : Nat) (es : List (Nat × Nat)) (k w : Nat) : Prop :=
  ∃ l : List Nat, l.length = k ∧ (w :: l).Pairwise (fun a b => TransGen (Rel es) b a) ∧
    ∀ x ∈ w :: l, x < n

theorem EndsPath.source {n w : Nat} (hw : w ∈ sources n es) : EndsPath n es 0 w := by
  refine ⟨[], rfl, List.pairwise_singleton _ _, fun x hx => ?_⟩
  rw [List.mem_singleton.1 hx]
  exact (mem_sources.1 hw).1

theorem EndsPath.succ {n k x w : Nat} (hE : ∀ e ∈ es, e.1 < n ∧ e.2 < n) (h : EndsPath n es k x)
    (hxw : (x, w) ∈ es) : EndsPath n es (k + 1) w := by
  obtain ⟨l, hl, hp, hlt⟩ := h
  exact ⟨x :: l, by simp [hl],
    List.pairwise_cons.2 ⟨List.forall_mem_cons.2
      ⟨TransGen.single hxw, fun y hy => TransGen.tail (List.rel_of_pairwise_cons hp hy) hxw⟩, hp⟩,
    List.forall_mem_cons.2 ⟨(hE _ hxw).2, hlt⟩⟩

theorem EndsPath.lt {n k w : Nat} (h : EndsPath n es k w) : w < n := by
  obtain ⟨l, _, _, hlt⟩ := h
  exact hlt w List.mem_cons_self

theorem EndsPath.bound {n k w : Nat} (hA : ¬ ∃ v, TransGen (Rel es) v v) (h : EndsPath n es k w) :
    k < n := by
  obtain ⟨l, hl, hp, hlt⟩ := h
  have hnd : (w :: l).Nodup := by
    refine List.Pairwise.imp ?_ hp
    intro a b hab heq
    subst heq
    exact hA ⟨a, hab⟩
  have := length_le_of_nodup_lt hnd hlt
  simp only [List.length_cons] at this
  omega

theorem loop_nil (fuel : Nat) (m : Marks) : loop es st R fuel m [] = (m, []) := by
  cases fuel <;> simp [loop]

/-- The loop by its invariant: the marks satisfy `Walk`, and after `k` levels every member of the
    frontier ends a path of `k` edges; so in an acyclic graph the frontier is empty before the fuel
    is used up, provided `n < fuel + k`. -/
theorem loop_walk {n : Nat} (hE : ∀ e ∈ es, e.1 < n ∧ e.2 < n) (hA : ¬ ∃ v, TransGen (Rel es) v v)
    (fuel : Nat) : ∀ (k : Nat) (m : Marks) (fr : List Nat), n < fuel + k →
      (∀ w ∈ fr, EndsPath n es k w) → Walk n es st R [] (m, fr) →
      ∃ m', loop es st R fuel m fr = (m', []) ∧ Walk n es st R [] (m', []) := by
  induction fuel with
  | zero =>
    intro k m fr hk hd hw
    cases fr with
    | nil => exact ⟨m, loop_nil _ m, hw⟩
    | cons w fr =>
      have := (hd w List.mem_cons_self).bound hA
      omega
  | succ fuel ih =>
    intro k m fr hk hd hw
    cases fr with
    | nil => exact ⟨m, loop_nil _ m, hw⟩
    | cons w fr =>
      refine ih (k + 1) (level es st R m (w :: fr)).1 (level es st R m (w :: fr)).2 (by omega)
        (fun v hv => ?_) (hw.next.fold _ _ fun u hu => (hd u hu).lt)
      rw [level_snd, List.mem_flatMap] at hv
      obtain ⟨x, hx, hxv⟩ := hv
      exact (hd x hx).succ hE (mem_succs.1 hxv)

end BdModel.Retry
