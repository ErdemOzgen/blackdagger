import BdModel.Lock.Socket
/- What one action of one agent can do to the shared state (frame, constants of a step), induction over the reachable
   worlds, and three invariants: an agent has touched nothing until its probe has let it pass (C16), a dry-run agent
   touches nothing at all (C03), a bound socket path has an owner that is alive between its bind and its close. -/
namespace BdModel.Lock

@[simp] theorem setAgent_same (w : World) (a : Nat) (ag : Agent) : (setAgent w a ag).agents a = ag := by
  simp [setAgent]

@[simp] theorem setAgent_other (w : World) (a b : Nat) (ag : Agent) (h : b ≠ a) :
    (setAgent w a ag).agents b = w.agents b := by
  simp [setAgent, h]

@[simp] theorem setAgent_ns (w : World) (a : Nat) (ag : Agent) : (setAgent w a ag).ns = w.ns := rfl

@[simp] theorem setNs_agents (w : World) (d : Nat) (s : Sock) : (setNs w d s).agents = w.agents := rfl

@[simp] theorem setNs_same (w : World) (d : Nat) (s : Sock) : (setNs w d s).ns d = s := by simp [setNs]

@[simp] theorem setNs_other (w : World) (d e : Nat) (s : Sock) (h : e ≠ d) : (setNs w d s).ns e = w.ns e := by
  simp [setNs, h]

@[simp] theorem setLk_agents (w : World) (d : Nat) (h : Option Nat) : (setLk w d h).agents = w.agents := rfl
@[simp] theorem setLk_ns (w : World) (d : Nat) (h : Option Nat) : (setLk w d h).ns = w.ns := rfl
@[simp] theorem setAgent_lk (w : World) (a : Nat) (ag : Agent) : (setAgent w a ag).lk = w.lk := rfl
@[simp] theorem setNs_lk (w : World) (d : Nat) (s : Sock) : (setNs w d s).lk = w.lk := rfl
@[simp] theorem setLk_same (w : World) (d : Nat) (h : Option Nat) : (setLk w d h).lk d = h := by simp [setLk]
@[simp] theorem setLk_other (w : World) (d e : Nat) (h : Option Nat) (he : e ≠ d) : (setLk w d h).lk e = w.lk e := by
  simp [setLk, he]
@[simp] theorem release_agents (w : World) (d a : Nat) : (release w d a).agents = w.agents := by
  unfold release; split <;> rfl
@[simp] theorem release_ns (w : World) (d a : Nat) : (release w d a).ns = w.ns := by
  unfold release; split <;> rfl
theorem release_lk (w : World) (d a e : Nat) :
    (release w d a).lk e = if e = d ∧ w.lk d = some a then none else w.lk e := by
  unfold release
  by_cases h : w.lk d = some a
  · by_cases he : e = d
    · subst he; simp [h]
    · simp [h, he]
  · simp [h]

/-! ### one step

  The lemmas about one `step` take `stepAg` apart by its own case principle: after
  `fun_cases stepAg … <;> intro h <;> cases h` one goal is left per enabled branch of the definition, with the
  branch's guards as hypotheses and `w'` replaced by the world the branch builds.  Lean names these goals `case1`,
  `case2`, … in the order of the branches of `stepAg`, nested matches and ifs flattened, counted from 1; a proof treats
  the branches that carry its argument by name and the rest by one tactic:
    1 setup, 2 precond, 3 dryRun, 4 lock taken, 5 lock refused, 6 lock skipped (file not opened), 7 probe answered,
    8 probe not answered, 9 histRemoveOld, 10 histOpen, 11 histWrite, 12 unlink, 13 bind onto a free path, 14 bind that
    fails, 15 listen by the owner of the path, 16 / 17 listen when the path is another's / not bound, 18 execStep,
    19 handler, 20 finalWrite, 21 unlock, 22 shutClose, 23 histClose, 24 unlock and 25 histClose after a failed bind,
    26 kill of the owner of its path, 27 / 28 kill when the path is another's / not bound. -/

theorem step_frame {w w' : World} {a : Nat} {act : Act} (h : step w a act = some w') :
    (∀ b, b ≠ a → w'.agents b = w.agents b) ∧ (∀ e, e ≠ (w.agents a).sock → w'.ns e = w.ns e) ∧
    (∀ e, e ≠ (w.agents a).dag → w'.lk e = w.lk e) := by
  unfold step at h
  revert h
  fun_cases stepAg w a (w.agents a) act <;> intro h <;> cases h
  all_goals exact ⟨fun b hb => by simp [hb], fun e he => by simp [he], fun e he => by simp [he, release_lk]⟩

theorem step_other {w w' : World} {a : Nat} {act : Act} (h : step w a act = some w') (b : Nat) (hb : b ≠ a) :
    w'.agents b = w.agents b :=
  (step_frame h).1 b hb

theorem step_ns_other {w w' : World} {a : Nat} {act : Act} (h : step w a act = some w') (e : Nat)
    (he : e ≠ (w.agents a).sock) : w'.ns e = w.ns e :=
  (step_frame h).2.1 e he

theorem step_const {w w' : World} {a : Nat} {act : Act} (h : step w a act = some w') (c : Nat) :
    (w'.agents c).dag = (w.agents c).dag ∧ (w'.agents c).sock = (w.agents c).sock ∧
    (w'.agents c).canOpen = (w.agents c).canOpen := by
  by_cases hc : c = a
  · subst hc
    unfold step at h
    revert h
    fun_cases stepAg w c (w.agents c) act <;> intro h <;> cases h
    all_goals simp [didStep, didHandler]
  · rw [step_other h c hc]; exact ⟨rfl, rfl, rfl⟩

/-- refusal, by the lock or by the probe, is final: a refused agent has no enabled action (not even `kill`: it has
    exited) -/
theorem refused_terminal {w : World} {a : Nat} (h : (w.agents a).pc = .refused) (act : Act) :
    step w a act = none := by
  unfold step
  fun_cases stepAg w a (w.agents a) act <;> simp_all [alive]

theorem afterListen_cases (p : Pc → Prop) (h1 : p .steps) (h2 : p .handlers) (h3 : p .finalWrite) (ag : Agent) :
    p (afterListen ag) := by
  unfold afterListen; split <;> (try split) <;> assumption

@[simp] theorem early_afterListen (ag : Agent) : early (afterListen ag) = false :=
  afterListen_cases (early · = false) rfl rfl rfl ag

/-! ### runs

  `reach_ind` is the one induction over `run`; an invariant is a predicate on worlds (or, with `reach_agent`, on one
  agent's record) that `init` satisfies and every step preserves. -/

theorem run_cons {w w' : World} {a : Nat} {act : Act} {tr : List (Nat × Act)} :
    run w ((a, act) :: tr) = some w' ↔ ∃ w1, step w a act = some w1 ∧ run w1 tr = some w' := by
  simp only [run]
  cases step w a act <;> simp

theorem reach_ind {P : World → Prop} (h0 : ∀ cfgs, P (init cfgs))
    (hs : ∀ w a act w', P w → step w a act = some w' → P w') {w : World} (hw : Reach w) : P w := by
  obtain ⟨cfgs, tr, h⟩ := hw
  have h0 := h0 cfgs
  generalize init cfgs = w0 at h h0
  induction tr generalizing w0 with
  | nil => cases h; exact h0
  | cons x tr ih =>
    obtain ⟨w1, hs1, h1⟩ := run_cons.1 h
    exact ih w1 h1 (hs _ _ _ _ h0 hs1)

theorem init_agent (cfgs : List Cfg) (b : Nat) : (init cfgs).agents b = idle ∨ ∃ c, (init cfgs).agents b = fresh c := by
  simp only [init]
  split
  · exact .inr ⟨_, rfl⟩
  · exact .inl rfl

theorem init_pc (cfgs : List Cfg) (a : Nat) : ((init cfgs).agents a).pc = .setup ∨ ((init cfgs).agents a).pc = .done := by
  rcases init_agent cfgs a with e | ⟨c, e⟩ <;> rw [e]
  · exact .inr rfl
  · exact .inl rfl

theorem reach_agent {P : Agent → Prop} (hi : P idle) (hf : ∀ c, P (fresh c))
    (hs : ∀ w a act w', P (w.agents a) → step w a act = some w' → P (w'.agents a))
    {w : World} (hw : Reach w) (b : Nat) : P (w.agents b) := by
  refine reach_ind (P := fun w => ∀ b, P (w.agents b)) (fun cfgs b => ?_) (fun w a act w' ih h b => ?_) hw b
  · rcases init_agent cfgs b with e | ⟨c, e⟩ <;> rw [e]
    · exact hi
    · exact hf c
  · by_cases hb : b = a
    · subst hb; exact hs _ _ _ _ (ih b) h
    · rw [step_other h b hb]; exact ih b

theorem step_early {w w' : World} {a : Nat} {act : Act}
    (inv : early (w.agents a).pc = true → Pristine (w.agents a)) (h : step w a act = some w') :
    early (w'.agents a).pc = true → Pristine (w'.agents a) := by
  unfold step at h
  revert h
  fun_cases stepAg w a (w.agents a) act <;> intro h <;> cases h
  all_goals simp only [setNs_agents, setLk_agents, release_agents, setAgent_same]
  -- setup, precond, lock, probe that refuses: the old program counter was early and no counter moves
  case case1 | case2 | case4 | case5 | case6 | case7 => exact fun _ => inv (by simp [*, early])
  -- everywhere else the new program counter is not early (`↓`: before `early` is unfolded)
  all_goals simp [↓early_afterListen, ↓apply_ite early, early]

theorem reach_early {w : World} (h : Reach w) (b : Nat) : early (w.agents b).pc = true → Pristine (w.agents b) :=
  reach_agent (P := fun ag => early ag.pc = true → Pristine ag) (by simp [Pristine, idle]) (by simp [Pristine, fresh])
    (fun _ _ _ _ => step_early) h b

theorem run_refused_frozen {w w' : World} {tr : List (Nat × Act)} (h : run w tr = some w') (b : Nat)
    (hr : (w.agents b).pc = .refused) : w'.agents b = w.agents b ∧ ∀ x ∈ tr, x.1 ≠ b := by
  induction tr generalizing w with
  | nil => cases h; simp
  | cons x tr ih =>
    obtain ⟨a, act⟩ := x
    obtain ⟨w1, hs, h1⟩ := run_cons.1 h
    have hab : a ≠ b := by
      intro e; subst e
      rw [refused_terminal hr act] at hs; cases hs
    have hb : w1.agents b = w.agents b := step_other hs b (Ne.symm hab)
    obtain ⟨h2, h3⟩ := ih h1 (by rw [hb]; exact hr)
    exact ⟨by rw [h2, hb], List.forall_mem_cons.2 ⟨hab, h3⟩⟩

/-- what the owner of a bound socket path is doing -/
def ownerOk : Bool → Pc → Bool
  | false, .listen => true
  | true, .steps => true
  | true, .handlers => true
  | true, .finalWrite => true
  | true, .unlock => true
  | true, .shutClose => true
  | _, _ => false

@[simp] theorem ownerOk_afterListen (ag : Agent) : ownerOk true (afterListen ag) = true :=
  afterListen_cases (ownerOk true · = true) rfl rfl rfl ag

def OwnerInv (w : World) : Prop :=
  ∀ e a l, w.ns e = .bound a l → (w.agents a).sock = e ∧ ownerOk l (w.agents a).pc = true

/-- whose the actor's socket path is when it is bound after the action: the actor's own, the actor being where an
    owner is, or as before somebody else's -/
theorem own_bound {w w' : World} {a x : Nat} {l : Bool} {act : Act} (h : step w a act = some w')
    (inv : ∀ l, w.ns (w.agents a).sock = .bound a l → ownerOk l (w.agents a).pc = true)
    (hns : w'.ns (w.agents a).sock = .bound x l) :
    if x = a then ownerOk l (w'.agents a).pc = true else w.ns (w.agents a).sock = .bound x l := by
  unfold step at h
  revert h
  fun_cases stepAg w a (w.agents a) act <;> intro h <;> cases h
  all_goals simp only [setNs_agents, setLk_agents, release_agents, setAgent_same, release_ns, setNs_same, setAgent_ns] at hns ⊢
  -- unlink, shutClose, kill of the owner: the path is free or stale afterwards
  case case12 | case22 | case26 => cases hns
  -- bind onto the free path: the path is the actor's, not yet listening, and the actor is at `listen`
  case case13 => cases hns; rw [if_pos rfl]; rfl
  -- listen by the owner: the path is listening now, and the owner has moved on to its steps, handlers or final write
  case case15 => cases hns; rw [if_pos rfl]; exact ownerOk_afterListen _
  -- all other actions leave the path as it was: somebody else's stays somebody else's (`exact hns`); if it is the
  -- actor's, `inv` says where the actor was (`ho`) …
  all_goals (split; rotate_left; exact hns)
  all_goals (rename_i e; rw [e] at hns; have ho := inv _ hns)
  -- … execStep, handler, finalWrite, unlock: at a program counter of the owner of a listening path, and it stays at one
  case case18 | case19 | case20 | case21 =>
    rw [‹(w.agents a).pc = _›] at ho
    cases l
    · cases ho
    · simp [↓ownerOk_afterListen, ↓apply_ite (ownerOk true), ownerOk]
  -- … listen, kill by an agent that does not own the path: excluded by the branch's guard
  case case16 | case17 | case27 | case28 => simp_all
  -- … everywhere else the actor is not where the owner of a path can be
  all_goals (rw [‹(w.agents a).pc = _›] at ho; cases l <;> cases ho)

theorem step_owner {w w' : World} {a : Nat} {act : Act} (inv : OwnerInv w) (h : step w a act = some w') :
    OwnerInv w' := by
  intro e x l hns
  by_cases he : e = (w.agents a).sock
  · subst he
    have hx := own_bound h (fun l hl => (inv _ _ _ hl).2) hns
    split at hx
    · next hxa =>
      subst hxa
      obtain ⟨-, hsock, -⟩ := step_const h x
      exact ⟨hsock, hx⟩
    · next hxa => rw [step_other h x hxa]; exact inv _ _ _ hx
  · rw [step_ns_other h e he] at hns
    have hx := inv e x l hns
    rw [step_other h x (fun hxa => he (hxa ▸ hx.1.symm))]
    exact hx

theorem reach_owner {w : World} (h : Reach w) : OwnerInv w :=
  reach_ind (P := OwnerInv) (fun cfgs e a l hns => by simp [init] at hns) (fun _ _ _ _ inv => step_owner inv) h

/-! ### dry-run agents (C03: no history in dry-run mode) -/

/-- where a dry-run agent can be: it never gets past `dryRun` -/
def dryPc : Pc → Bool
  | .setup | .precond | .dryRun | .done | .failed | .dead => true
  | _ => false

/-- what a dry-run agent can look like: it never gets past `dryRun` and has touched nothing -/
def DryOk (ag : Agent) : Prop := ag.dry = true → Pristine ag ∧ dryPc ag.pc = true

theorem step_dry {w w' : World} {a : Nat} {act : Act} (inv : DryOk (w.agents a)) (h : step w a act = some w') :
    DryOk (w'.agents a) := by
  unfold step at h
  revert h
  fun_cases stepAg w a (w.agents a) act <;> intro h <;> cases h
  all_goals (simp only [setNs_agents, setLk_agents, release_agents, setAgent_same]; intro hd; obtain ⟨hp, hpc⟩ := inv hd)
  -- setup, precond (which sends a dry-run agent to `dryRun`): nothing is counted
  case case1 | case2 =>
    refine ⟨hp, ?_⟩; simp only [show (w.agents a).dry = true from hd, if_true]; cases ‹Bool› <;> rfl
  -- dryRun, kill: nothing is counted, and the agent is done or dead
  case case3 | case26 | case27 | case28 => exact ⟨hp, rfl⟩
  -- a dry-run agent is not where the other actions start
  all_goals (rw [‹(w.agents a).pc = _›] at hpc; cases hpc)

theorem reach_dry {w : World} (h : Reach w) (b : Nat) : DryOk (w.agents b) :=
  reach_agent (P := DryOk) (by simp [DryOk, Pristine, idle]) (by simp [DryOk, Pristine, fresh, dryPc])
    (fun _ _ _ _ => step_dry) h b

end BdModel.Lock
