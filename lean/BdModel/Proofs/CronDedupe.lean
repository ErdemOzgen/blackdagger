import BdModel.Proofs.Cron
/-
  The per-tick de-duplication of `run` (/repo 922dee6): the calls issued are, as a SET, those of the loop without
  de-duplication, each at most once, and still DAG by DAG independent.
-/
namespace BdModel.Cron

/-- why skipping the later due entries of a key loses no call: they would issue the one the first issues -/
theorem entryAct_key_eq (st : Nat → Status) (t : Nat) (e e' : Entry) (hk : e'.key = e.key)
    (hi : invoked e.spec t = true) (hi' : invoked e'.spec t = true) : entryAct st t e' = entryAct st t e := by
  have h1 : e'.kind = e.kind := congrArg Prod.fst hk
  have h2 : e'.dag = e.dag := congrArg Prod.snd hk
  rw [entryAct_eq, entryAct_eq]
  simp only [hi, hi', if_true, invoke, h1, h2]

theorem dedupe_sublist : ∀ (l : List Entry) (seen : List (Kind × Nat)), (dedupe l seen).Sublist l
  | [], _ => List.Sublist.slnil
  | x :: xs, seen => by
    rw [dedupe]
    split
    · exact (dedupe_sublist xs seen).cons x
    · exact (dedupe_sublist xs _).cons_cons x

theorem dedupe_has_key : ∀ (l : List Entry) (seen : List (Kind × Nat)) (e : Entry), e ∈ l → e.key ∉ seen →
    ∃ e' ∈ dedupe l seen, e'.key = e.key
  | [], _, _, he, _ => absurd he List.not_mem_nil
  | x :: xs, seen, e, he, hns => by
    rw [dedupe]
    split
    · rename_i hx
      rcases List.mem_cons.mp he with rfl | he'
      · exact absurd hx hns
      · exact dedupe_has_key xs seen e he' hns
    · by_cases hk : e.key = x.key
      · exact ⟨x, List.mem_cons_self, hk.symm⟩
      · rcases List.mem_cons.mp he with rfl | he'
        · exact absurd rfl hk
        · obtain ⟨e', h1, h2⟩ := dedupe_has_key xs (x.key :: seen) e he' (fun hm => (List.mem_cons.mp hm).elim hk hns)
          exact ⟨e', List.mem_cons_of_mem _ h1, h2⟩

theorem dedupe_countP_key (k : Kind × Nat) : ∀ (l : List Entry) (seen : List (Kind × Nat)),
    (dedupe l seen).countP (fun e => decide (e.key = k)) ≤ if k ∈ seen then 0 else 1
  | [], seen => by simp [dedupe]
  | x :: xs, seen => by
    rw [dedupe]
    split
    · exact dedupe_countP_key k xs seen
    · rename_i hx
      have := dedupe_countP_key k xs (x.key :: seen)
      rw [List.countP_cons]
      by_cases hk : x.key = k
      · subst hk; simp only [List.mem_cons, true_or, if_true] at this; simp only [hx, if_false, decide_true, if_true]; omega
      · have hk' : ¬ k = x.key := fun h => hk h.symm
        simpa only [List.mem_cons, hk', false_or, hk, decide_false, Bool.false_eq_true, if_false, Nat.add_zero] using this

theorem dedupe_congr_seen : ∀ (l : List Entry) (s1 s2 : List (Kind × Nat)),
    (∀ x ∈ l, x.key ∈ s1 ↔ x.key ∈ s2) → dedupe l s1 = dedupe l s2
  | [], _, _, _ => rfl
  | x :: xs, s1, s2, h => by
    have hx := h x List.mem_cons_self
    have ih := fun t1 t2 => dedupe_congr_seen xs t1 t2
    rw [dedupe, dedupe]
    by_cases h1 : x.key ∈ s1
    · rw [if_pos h1, if_pos (hx.mp h1)]
      exact ih s1 s2 (fun y hy => h y (List.mem_cons_of_mem _ hy))
    · rw [if_neg h1, if_neg (fun hh => h1 (hx.mpr hh))]
      congr 1
      apply ih
      intro y hy
      simp only [List.mem_cons, h y (List.mem_cons_of_mem _ hy)]

theorem dedupe_filter_dag (d : Nat) : ∀ (l : List Entry) (seen : List (Kind × Nat)),
    (dedupe l seen).filter (fun e => e.dag == d) = dedupe (l.filter (fun e => e.dag == d)) seen
  | [], _ => rfl
  | x :: xs, seen => by
    have ih := dedupe_filter_dag d xs
    rw [List.filter_cons, dedupe]
    by_cases hp : (x.dag == d) = true
    · rw [if_pos hp, dedupe]
      split
      · exact ih seen
      · rw [List.filter_cons, if_pos hp, ih]
    · rw [if_neg hp]
      split
      · exact ih seen
      · rw [List.filter_cons, if_neg hp, ih]
        -- `x` is of another DAG: the key it adds to `seen` is one no entry of `d` can have
        apply dedupe_congr_seen
        intro y hy
        have hyd : (y.dag == d) = true := (List.mem_filter.mp hy).2
        have hne : y.key ≠ x.key := fun h => hp ((show y.dag = x.dag from congrArg Prod.snd h) ▸ hyd)
        simp only [List.mem_cons, hne, false_or]

theorem mem_runTick_iff_pinned (dags : List Dag) (susp : Nat → Bool) (st : Nat → Status) (t : Nat) (a : Act) :
    a ∈ runTick dags susp st t ↔ a ∈ runTickPinned dags susp st t := by
  unfold runTick runTickPinned dueEntries
  simp only [List.mem_filterMap]
  constructor
  · rintro ⟨e, he, ha⟩
    exact ⟨e, (List.mem_filter.mp ((dedupe_sublist _ _).subset he)).1, ha⟩
  · rintro ⟨e, he, ha⟩
    obtain ⟨hi, _, _⟩ := (entryAct_eq_some_iff st t e a).mp ha
    have hdue : e ∈ (readEntries dags susp).filter (fun e => invoked e.spec t) :=
      List.mem_filter.mpr ⟨he, hi⟩
    obtain ⟨e', he', hk⟩ := dedupe_has_key _ [] e hdue (by simp)
    have hi' : invoked e'.spec t = true := by
      have := (List.mem_filter.mp ((dedupe_sublist _ _).subset he')).2
      simpa using this
    exact ⟨e', he', by rw [entryAct_key_eq st t e e' hk hi hi']; exact ha⟩

/-- the calls of a tick, as a set: call `a` is issued iff a schedule of its kind in (a definition of) its DAG is due,
    the DAG is not suspended and the guard of its kind passes - Start, Stop and Restart alike -/
theorem mem_runTick_iff (dags : List Dag) (susp : Nat → Bool) (st : Nat → Status) (t : Nat) (a : Act) :
    a ∈ runTick dags susp st t ↔
      (∃ x ∈ dags, x.id = a.dag ∧ ∃ sp ∈ x.specs a.kind, invoked sp t = true) ∧ susp a.dag = false ∧
      Guard a.kind t (st a.dag) := by
  rw [mem_runTick_iff_pinned, mem_runTickPinned]
  constructor
  · rintro ⟨x, hx, hs, e, he, ha⟩
    obtain ⟨hdag, hsp⟩ := (mem_entriesOf x e).mp he
    obtain ⟨hi, hk, hg⟩ := (entryAct_eq_some_iff st t e a).mp ha
    have h1 : a.kind = e.kind := congrArg Prod.fst hk
    have h2 : a.dag = x.id := (congrArg Prod.snd hk).trans hdag
    rw [h1, h2]
    exact ⟨⟨x, hx, rfl, e.spec, hsp, hi⟩, hs, hdag ▸ hg⟩
  · rintro ⟨⟨x, hx, hxd, sp, hsp, hi⟩, hs, hg⟩
    refine ⟨x, hx, hxd ▸ hs, ⟨x.id, a.kind, sp⟩, (mem_entriesOf x _).mpr ⟨rfl, hsp⟩, ?_⟩
    exact (entryAct_eq_some_iff st t _ a).mpr ⟨hi, by rw [hxd]; rfl, hxd ▸ hg⟩

theorem mem_runTick_minute (dags : List Dag) (susp : Nat → Bool) (st : Nat → Status) (m : Nat) (hm : 0 < m) (a : Act) :
    a ∈ runTick dags susp st (60 * m) ↔
      (∃ x ∈ dags, x.id = a.dag ∧ ∃ sp ∈ x.specs a.kind, fires sp m = true) ∧ susp a.dag = false ∧
      Guard a.kind (60 * m) (st a.dag) := by
  rw [mem_runTick_iff]
  simp only [invoked_iff_fires _ m hm]

theorem count_runTick_le_one (dags : List Dag) (susp : Nat → Bool) (st : Nat → Status) (t : Nat) (a : Act) :
    (runTick dags susp st t).count a ≤ 1 := by
  unfold runTick
  rw [List.count_filterMap]
  refine Nat.le_trans (List.countP_mono_left ?_) (dedupe_countP_key a.key _ [])
  intro e _ he
  have : entryAct st t e = some a := by simpa using he
  obtain ⟨_, hkey, _⟩ := (entryAct_eq_some_iff st t e a).mp this
  simpa using hkey.symm

/-- the calls issued for DAG `d` depend only on the definitions loaded under id `d` -/
theorem runTick_filter_dag (dags : List Dag) (susp : Nat → Bool) (st : Nat → Status) (t d : Nat) :
    (runTick dags susp st t).filter (fun a => a.dag == d) =
      runTick (dags.filter (fun x => x.id == d)) susp st t := by
  unfold runTick dueEntries
  rw [filter_filterMap_dag, dedupe_filter_dag, ← readEntries_filter_dag]
  congr 2
  rw [List.filter_filter, List.filter_filter]
  apply List.filter_congr
  intro e _
  exact Bool.and_comm _ _

end BdModel.Cron
