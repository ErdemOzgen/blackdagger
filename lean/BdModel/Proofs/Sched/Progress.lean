import BdModel.Proofs.Sched.Inv
/-
  Deadlock freedom (C02 "steps always run to completion", C15 "the limit never prevents a run from
  completing"), for every run `Schedule` can make: whenever the run is not finished and not stopped,
  the worker of a running step has an enabled action, or one scan of the loop changes the state — it
  launches a step or labels one.
-/
namespace BdModel.Sched

/-- what `scan_progress` needs of the fold: if no dependency waits, `not ready` comes with a label -/
theorem readyFold_labelled (c : Cfg) (s : State) (ds : List Nat) :
    ∀ (r : Bool) (l : Option NStatus),
      (∀ d ∈ ds, readyEffect (s.nd d).status (c.node d).contFail (c.node d).contSkip ≠ .wait) →
      (r = false → l.isSome = true) →
      ((readyFold c s ds (r, l)).1 = false → (readyFold c s ds (r, l)).2.isSome = true) := by
  induction ds with
  | nil => intro r l _ h; simpa [readyFold] using h
  | cons d ds ih =>
    intro r l hw h
    simp only [readyFold]
    have hd := hw d List.mem_cons_self
    have hrest : ∀ d' ∈ ds, readyEffect (s.nd d').status (c.node d').contFail (c.node d').contSkip ≠ .wait :=
      fun d' hd' => hw d' (List.mem_cons_of_mem _ hd')
    split
    · exact ih r l hrest h
    · rename_i heq; exact absurd heq hd
    · exact ih false _ hrest (fun _ => rfl)

theorem scan_progress (c : Cfg) (hw : WF c) (hrk : Ranked c) (s : State)
    (hscan : s.loop = .scanning) (hnc : s.canceled = false) (hnf : isFinished c s = false)
    (hnr : ∀ j, j < c.n → (s.nd j).status ≠ .running) :
    ∃ i s', step c s (.visitDecide i) = some s' ∧ s' ≠ s := by
  obtain ⟨rank, hrank⟩ := hrk
  have hnone : ∃ i0, i0 < c.n ∧ (s.nd i0).status = .none := by
    simp only [isFinished, List.all_eq_false, List.mem_range] at hnf
    obtain ⟨j, hj, hb⟩ := hnf
    refine ⟨j, hj, ?_⟩
    have := hnr j hj
    cases hst : (s.nd j).status <;> simp_all
  obtain ⟨i0, hi0⟩ := hnone
  -- from it, down the rank along waiting dependencies, to a step none of whose dependencies waits
  have hex : ∀ k i0, rank i0 = k → i0 < c.n → (s.nd i0).status = .none →
      ∃ i, i < c.n ∧ (s.nd i).status = .none ∧
        ∀ d ∈ (c.node i).deps, readyEffect (s.nd d).status (c.node d).contFail (c.node d).contSkip ≠ .wait := by
    intro k
    induction k using Nat.strongRecOn with
    | _ k ih =>
      intro i0 hk hin hist
      by_cases hwt : ∃ d ∈ (c.node i0).deps,
          readyEffect (s.nd d).status (c.node d).contFail (c.node d).contSkip = .wait
      · obtain ⟨d, hd, hwt⟩ := hwt
        have hdn := hw i0 hin d hd
        rcases (readyEffect_wait _ _ _).mp hwt with h | h
        · exact ih (rank d) (by have := hrank i0 hin d hd; omega) d rfl hdn h
        · exact absurd h (hnr d hdn)
      · exact ⟨i0, hin, hist, fun d hd h => hwt ⟨d, hd, h⟩⟩
  obtain ⟨i, hin, hist, hdeps⟩ := hex _ i0 rfl hi0.1 hi0.2
  have hlab := readyFold_labelled c s (c.node i).deps true none hdeps (by simp)
  have hrc : runningCount c s = 0 := by
    simp only [runningCount, List.countP_eq_zero, List.mem_range]
    intro j hj
    have := hnr j hj
    simpa using this
  cases hr : isReady c s i with
  | mk ready lab =>
    have hlab' : ready = false → lab.isSome = true := by
      have := hlab
      simp only [isReady] at hr
      rw [hr] at this
      exact this
    cases ready with
    | true =>
      have hlabn : lab = none := by
        have := (isReady_true c s i (by rw [hr])).1
        rw [hr] at this; exact this
      subst hlabn
      -- nothing runs, so the limit test `maxActive > 0 ∧ runningCount ≥ maxActive` reads `0 < maxActive ∧ maxActive = 0`
      have hlim : ¬ (0 < c.maxActive ∧ c.maxActive = 0) := by omega
      refine ⟨i, { s with loop := .launching i }, ?_, ?_⟩
      · simp [step, hscan, hin, hist, hr, hnc, hrc, hlim]
      · intro he
        have := congrArg State.loop he
        simp [hscan] at this
    | false =>
      obtain ⟨l, rfl⟩ := Option.isSome_iff_exists.mp (hlab' rfl)
      refine ⟨i, s.setNode i { s.nd i with status := l }, ?_, ?_⟩
      · simp [step, hscan, hin, hist, hr]
      · intro he
        have h1 := congrArg (fun t => (t.nd i).status) he
        simp only [State.setNode, updN, if_true] at h1
        -- the label written is `canceled` or `skipped`, never `not started`
        have := isReady_label_cases c s i l (by rw [hr])
        rw [hist] at h1
        rcases this with rfl | rfl <;> simp at h1

/-- the next action of a worker at `p` (for a command that is running: its successful end) -/
def PC.next (j : Nat) : PC → Act
  | .setup => .setupDone j true
  | .check => .check j
  | .starting => .execStart j
  | .exec => .execEnd j true
  | .wErr | .wTimeout => .postWrite j
  | .retrySleep => .retryWake j
  | .tail => .tail j
  | .td => .teardown j true
  | .deferred => .deferred j
  | .idle | .gone => .zombie j

theorem worker_enabled (c : Cfg) (s : State) (j : Nat) (h1 : (s.nd j).pc ≠ .idle) (h2 : (s.nd j).pc ≠ .gone) :
    (step c s ((s.nd j).pc.next j)).isSome = true := by
  cases hp : (s.nd j).pc <;> simp_all [PC.next, step] <;> split <;> rfl

theorem worker_progress_from (c : Cfg) {s0 : State} (h0 : Start s0) (s : State)
    (hr : ReachFrom c s0 s) (j : Nat) (h : (s.nd j).status = .running) :
    ∃ a s', step c s a = some s' ∧
      (a = .setupDone j true ∨ a = .check j ∨ a = .execStart j ∨ a = .execEnd j true ∨ a = .postWrite j ∨
       a = .retryWake j ∨ a = .tail j) := by
  have hb := hr.busy h0 j h
  obtain ⟨s', hs⟩ := Option.isSome_iff_exists.mp (worker_enabled c s j hb.1 hb.2.2.2)
  refine ⟨_, s', hs, ?_⟩
  cases hp : (s.nd j).pc <;> simp_all [PC.next]

theorem never_blocks_from (c : Cfg) (hw : WF c) (hrk : Ranked c) {s0 : State} (h0 : Start s0)
    (s : State) (hr : ReachFrom c s0 s)
    (hscan : s.loop = .scanning) (hnc : s.canceled = false) (hnf : isFinished c s = false) :
    (∃ j, j < c.n ∧ (s.nd j).status = .running ∧ ∃ a s', step c s a = some s' ∧
        (a = .setupDone j true ∨ a = .check j ∨ a = .execStart j ∨ a = .execEnd j true ∨ a = .postWrite j ∨
         a = .retryWake j ∨ a = .tail j)) ∨
    (∃ i s', step c s (.visitDecide i) = some s' ∧ s' ≠ s) := by
  rcases Classical.em (∃ j, j < c.n ∧ (s.nd j).status = .running) with ⟨j, hj, hrun⟩ | hno
  · exact Or.inl ⟨j, hj, hrun, worker_progress_from c h0 s hr j hrun⟩
  · exact Or.inr (scan_progress c hw hrk s hscan hnc hnf (fun j hj h => hno ⟨j, hj, h⟩))

end BdModel.Sched

#print axioms BdModel.Sched.never_blocks_from
