import BdModel.Proofs.Sched.Inv
/-
  C01 and C02 for every run `Schedule` can make (fresh or retry): the readiness gate (`deps_done_from`),
  finished dependencies stay finished (`done_stable_from`), an unstopped run that has left its loop has
  no step left over (`final_terminal_from`), and the labels of the steps that start from scratch are
  consistent with those of their dependencies (`label_consistent_from`).
-/
namespace BdModel.Sched

variable {c : Cfg} {s s' : State} {a : Act}

theorem active_running_from (c : Cfg) (hn : NoRep c) {s0 : State} (h0 : Start s0) (s : State)
    (hr : ReachFrom c s0 s) (hc : s.canceled = false)
    (j : Nat) (h : (s.nd j).pc.active = true) : (s.nd j).status = .running := by
  have := (hr.inv hn h0 j).inactive hc
  revert h
  cases hp : (s.nd j).pc <;> simp_all

theorem active_running (c : Cfg) (hn : NoRep c) (s : State) (hr : Reach c s) (hc : s.canceled = false)
    (j : Nat) (h : (s.nd j).pc.active = true) : (s.nd j).status = .running :=
  active_running_from c hn (start_init c) s hr.reachFrom hc j h

/-- What one transition can do to a status that is there. Clauses 1-4: `error` and `skipped` are final, `success` is
    overwritten only by a teardown fault, `cancel` only in a stopped or timed-out run (for `Step.block_stable`, the outcome
    lemmas); 5: a node with a status and no active worker gets none and executes nothing (for `done_stable_from`); 6: in an
    unstopped run a node that is neither `not started` nor `running` stays so (for `inv_final_from`). -/
theorem Step.stable (h : Step c s a s') (hI : Inv c s) (d : Nat) :
    ((s.nd d).status = .error → (s'.nd d).status = .error) ∧
    ((s.nd d).status = .skipped → (s'.nd d).status = .skipped) ∧
    (c.tdFaults = false → (s.nd d).status = .success → (s'.nd d).status = .success) ∧
    (s'.canceled = false → s'.timedOut = false → (s.nd d).status = .cancel → (s'.nd d).status = .cancel) ∧
    ((s.nd d).status ≠ .none → (s.nd d).pc.active = false →
      (s'.nd d).pc.active = false ∧ (s'.nd d).execs = (s.nd d).execs) ∧
    (s'.canceled = false → (s.nd d).status ≠ .none → (s.nd d).status ≠ .running →
      (s'.nd d).status ≠ .none ∧ (s'.nd d).status ≠ .running) := by
  rcases h.nd d with he | ⟨e, hm⟩
  · simp only [he]; grind
  · -- the invariant pins the pc of a node with a final status (`tail` or later, or `idle`), and there no
    -- move writes a status but the teardown fault; a stop or a timeout can reach a worker that is still at work
    have hf := h.flags
    have hI := hI d
    simp only [NodeInv, PC.active_false_iff] at hI ⊢
    generalize s'.nd d = y at hm ⊢
    cases hm <;> (try simp only [after]) <;> grind

theorem Step.block_stable (h : Step c s a s') (hI : Inv c s) (hc : s'.canceled = false) (ht : s'.timedOut = false)
    {d : Nat} {lab : NStatus}
    (hb : readyEffect (s.nd d).status (c.node d).contFail (c.node d).contSkip = .block lab) :
    readyEffect (s'.nd d).status (c.node d).contFail (c.node d).contSkip = .block lab := by
  have := h.stable hI d
  simp only [readyEffect_block] at hb ⊢
  grind

theorem done_stable_from (c : Cfg) (hn : NoRep c) (hf : c.tdFaults = false) {s0 : State} (h0 : Start s0)
    (s s' : State) (hr : ReachFrom c s0 s) (a : Act) (hs : step c s a = some s') (d : Nat)
    (h : Licensed c s d ∧ Settled s d) :
    Licensed c s' d ∧ Settled s' d ∧ (s'.nd d).execs = (s.nd d).execs := by
  have := (step_sound hs).stable (hr.inv hn h0) d
  simp only [Licensed, Settled] at h ⊢
  grind

theorem licensed_stable (c : Cfg) (hn : NoRep c) (hf : c.tdFaults = false) (s s' : State) (hr : Reach c s)
    (a : Act) (hs : step c s a = some s') (hc : s'.canceled = false) (d : Nat)
    (h : Licensed c s d) : Licensed c s' d := by
  have := (step_sound hs).stable (hr.reachFrom.inv hn (start_init c)) d
  unfold Licensed at *
  grind

theorem licensed_settled_from (c : Cfg) (hn : NoRep c) {s0 : State} (h0 : Start s0) (s : State)
    (hr : ReachFrom c s0 s) (d : Nat) (h : Licensed c s d) : Settled s d := by
  have := hr.inv hn h0 d
  simp only [Licensed, Settled, PC.active_false_iff, NodeInv] at *
  grind

/-- the readiness gate has been passed for `i` at some time -/
def Trig (s : State) (i : Nat) : Prop :=
  s.loop = .launching i ∨ 0 < (s.nd i).launches ∨ (s.nd i).preSkip = true

theorem Step.trig (h : Step c s a s') (i : Nat) (ht : Trig s' i) :
    Trig s i ∨ (s'.nd = s.nd ∧ ∀ d ∈ (c.node i).deps, Licensed c s d) := by
  simp only [Trig] at ht ⊢
  cases h with
  | @node a j y e hm =>
    left
    by_cases hj : i = j
    · subst hj
      cases hm <;> simp_all [Act.loopAfter]
    · rcases ht with ht | ht
      · exact Or.inl (Act.loopAfter_launching ht)
      · exact Or.inr (by simpa [hj] using ht)
  | @decide j _ _ _ _ _ hl =>
    by_cases hj : i = j
    · subst hj; exact Or.inr ⟨rfl, hl⟩
    · exact Or.inl (Or.inr (by simpa [Ne.symm hj] using ht))
  | _ => simp_all

theorem inv_deps_from (c : Cfg) (hn : NoRep c) (hf : c.tdFaults = false) {s0 : State} (h0 : Start s0)
    (s : State) (hr : ReachFrom c s0 s) :
    ∀ i, Trig s i → ∀ d ∈ (c.node i).deps, Licensed c s d ∧ Settled s d := by
  induction hr with
  | init =>
    intro i h
    have := h0.node_idle i
    simp [Trig, h0.loop] at h
    grind
  | @step s s' a hr hs ih =>
    intro i ht d hd
    rcases (step_sound hs).trig i ht with h | ⟨h1, h2⟩
    · have := done_stable_from c hn hf h0 s s' hr a hs d (ih i h d hd)
      exact ⟨this.1, this.2.1⟩
    · have hse := licensed_settled_from c hn h0 s hr d (h2 d hd)
      simp only [Licensed, Settled, h1] at *
      exact ⟨h2 d hd, hse⟩

/-- a step the loop labels has a dependency that is not licensed, so it has not passed the gate:
    it was never launched -/
theorem not_launched_of_label (c : Cfg) (hn : NoRep c) (hf : c.tdFaults = false) {s0 : State} (h0 : Start s0)
    (s : State) (hr : ReachFrom c s0 s) {i : Nat} {l : NStatus} (hl : (isReady c s i).2 = some l) :
    (s.nd i).launches = 0 :=
  Nat.eq_zero_of_not_pos fun hpos => by
    have := isReady_none_of_licensed c s i
      fun d hd => (inv_deps_from c hn hf h0 s hr i (Or.inr (Or.inl hpos)) d hd).1
    simp [this] at hl

theorem deps_done_from (c : Cfg) (hn : NoRep c) (hf : c.tdFaults = false) {s0 : State} (h0 : Start s0)
    (s : State) (hr : ReachFrom c s0 s) (i : Nat)
    (hp : (s.nd i).pc ≠ .idle ∨ s.loop = .launching i) :
    ∀ d ∈ (c.node i).deps, Licensed c s d ∧ Settled s d :=
  inv_deps_from c hn hf h0 s hr i (hp.elim (fun h => .inr (.inl ((hr.inv hn h0 i).launched (.inl h)))) .inl)

theorem inv_final_from (c : Cfg) (hn : NoRep c) {s0 : State} (h0 : Start s0) (s : State)
    (hr : ReachFrom c s0 s) :
    s.canceled = false → s.loop.doneO = true → ∀ i, i < c.n → (s.nd i).status ≠ .none ∧ (s.nd i).status ≠ .running := by
  induction hr with
  | init => simp [LoopPC.doneO, h0.loop]
  | @step s s' a hr hs ih =>
    intro hc hl i hi
    obtain ⟨-, -, -, -, -, hst⟩ := (step_sound hs).stable (hr.inv hn h0) i
    have hc0 := (step_sound hs).flags.1 hc
    rcases (step_sound hs).loop_done hl with h | ⟨h1, h2⟩
    · have := ih hc0 h i hi
      exact hst hc this.1 this.2
    · rw [h1]
      have := (isFinished_iff c s).1 (by simpa [hc0] using h2) i hi
      exact ⟨this.2, this.1⟩

theorem final_terminal_from (c : Cfg) (hn : NoRep c) {s0 : State} (h0 : Start s0)
    (s : State) (hr : ReachFrom c s0 s) (hc : s.canceled = false) (hl : LoopDone s)
    (i : Nat) (hi : i < c.n) : Terminal (s.nd i).status := by
  have := inv_final_from c hn h0 s hr hc ((LoopDone_iff s).1 hl) i hi
  revert this
  cases (s.nd i).status <;> simp [Terminal]

/-- How a node gets, or keeps, the labels the loop writes: launches and `preSkip` (1, 2), and where a `cancel` (3) or a
    `skipped` (4) in the new state comes from. -/
theorem Step.label (h : Step c s a s') (hI : Inv c s) (i : Nat) :
    ((s'.nd i).status ≠ .running → (s'.nd i).launches = (s.nd i).launches) ∧
    ((s.nd i).preSkip = true → (s'.nd i).preSkip = true) ∧
    (s'.canceled = false → s'.timedOut = false → (s'.nd i).status = .cancel →
      (s.nd i).status = .cancel ∨ ((s.nd i).status = .none ∧ (isReady c s i).2 = some .cancel)) ∧
    ((s'.nd i).status = .skipped →
      (s.nd i).status = .skipped ∨ ((s.nd i).status = .none ∧ (isReady c s i).2 = some .skipped) ∨
      (s'.nd i).preSkip = true) := by
  rcases h.nd i with he | ⟨e, hm⟩
  · simp only [he]; grind
  · -- a worker writes `cancel` under a stop (`endStopped`, a signal), after a timeout (`writeTimeout`: `hT`), or at `tail`
    -- without having executed (`tailSet`, which `hR` excludes in an unstopped run): otherwise only the loop's `label` does
    have hf := h.flags
    have hR := (hI i).ran
    have hT := (hI i).wTimeout
    generalize s'.nd i = y at hm ⊢
    cases hm <;> (try simp only [after]) <;> grind

/-- In a run that is neither stopped nor timed out, a node labelled `lab` (`cancel` or `skipped`) by
    the loop and not by its own precondition was never launched, and one of its dependencies blocks
    with that label. -/
def LabelOK (c : Cfg) (s : State) (i : Nat) : Prop :=
  s.canceled = false → s.timedOut = false → ∀ lab, (s.nd i).status = lab →
    lab = .cancel ∨ (lab = .skipped ∧ (s.nd i).preSkip = false) →
    (s.nd i).launches = 0 ∧ ∃ d ∈ (c.node i).deps,
      readyEffect (s.nd d).status (c.node d).contFail (c.node d).contSkip = .block lab

theorem inv_label_from (c : Cfg) (hn : NoRep c) (hf : c.tdFaults = false) {s0 : State} (h0 : Start s0)
    (s : State) (hr : ReachFrom c s0 s) (i : Nat) (hi0 : s0.nd i = {}) : LabelOK c s i := by
  induction hr with
  | init => intro _ _ lab hl; simp [hi0] at hl; simp [← hl]
  | @step s s' a hr hs ih =>
    intro hc ht lab hl hlab
    have hI := hr.inv hn h0
    have hst := step_sound hs
    obtain ⟨hla, hps, hcan, hskip⟩ := hst.label hI i
    replace hla := hla (by rcases hlab with rfl | ⟨rfl, -⟩ <;> simp [hl])
    -- it is enough to find the blocker in `s`: the launch count is that of `s` (`hla`) and the blocker goes on blocking
    suffices h : (s.nd i).launches = 0 ∧ ∃ d ∈ (c.node i).deps,
        readyEffect (s.nd d).status (c.node d).contFail (c.node d).contSkip = .block lab by
      obtain ⟨hz, d, hdd, hb⟩ := h
      exact ⟨hla.trans hz, d, hdd, hst.block_stable hI hc ht hb⟩
    -- the label is written by this very step (`hnew`: `isReady_label` names the blocker, `not_launched_of_label` gives
    -- `launches = 0`) or was there before (`hold`: the induction hypothesis)
    have hnew : (isReady c s i).2 = some lab → (s.nd i).launches = 0 ∧ ∃ d ∈ (c.node i).deps,
        readyEffect (s.nd d).status (c.node d).contFail (c.node d).contSkip = .block lab := fun h2 =>
      let ⟨d, hdd, hb⟩ := isReady_label c s i lab h2
      ⟨not_launched_of_label c hn hf h0 s hr h2, d, hdd, (readyEffect_block ..).2 hb⟩
    have hold := ih (hst.flags.1 hc) (hst.flags.2 ht) lab
    rcases hlab with rfl | ⟨rfl, hp⟩
    · rcases hcan hc ht hl with h | ⟨-, h2⟩
      · exact hold h (.inl rfl)
      · exact hnew h2
    · rcases hskip hl with h | ⟨-, h2⟩ | h
      · refine hold h (.inr ⟨rfl, ?_⟩)
        cases hq : (s.nd i).preSkip
        · rfl
        · simp [hps hq] at hp
      · exact hnew h2
      · simp [h] at hp

theorem launched_of_ran_from (c : Cfg) (hn : NoRep c) {s0 : State} (h0 : Start s0) (s : State)
    (hr : ReachFrom c s0 s) (i : Nat) (hi0 : s0.nd i = {}) :
    ((s.nd i).status = .success ∨ (s.nd i).status = .error ∨ (s.nd i).status = .running) →
      0 < (s.nd i).launches := by
  refine hr.node_induction (Q := fun x => x.status = .success ∨ x.status = .error ∨ x.status = .running → 0 < x.launches)
    i (by simp [hi0]) fun s a y e hr hm ih => ?_
  have hL := (hr.inv hn h0 i).launched
  have hlab := isReady_label_cases c s i
  cases hm <;> (try simp only [after]) <;> grind

theorem label_consistent_from (c : Cfg) (hn : NoRep c) (hf : c.tdFaults = false) {s0 : State} (h0 : Start s0)
    (s : State) (hr : ReachFrom c s0 s) (hc : s.canceled = false) (ht : s.timedOut = false)
    (i : Nat) (hi0 : s0.nd i = {}) :
    ((s.nd i).status = .cancel →
        (s.nd i).execs = 0 ∧ ∃ d ∈ (c.node i).deps,
          ((s.nd d).status = .error ∧ (c.node d).contFail = false) ∨ (s.nd d).status = .cancel) ∧
    ((s.nd i).status = .skipped →
        ((s.nd i).preSkip = true ∧ (c.node i).hasPre = true ∧ ∀ d ∈ (c.node i).deps, Licensed c s d) ∨
        ((s.nd i).execs = 0 ∧
         ∃ d ∈ (c.node i).deps, (s.nd d).status = .skipped ∧ (c.node d).contSkip = false)) ∧
    (((s.nd i).status = .success ∨ (s.nd i).status = .error ∨ (s.nd i).status = .running) →
        ∀ d ∈ (c.node i).deps, Licensed c s d) := by
  have hK := hr.inv hn h0 i
  have hLab := inv_label_from c hn hf h0 s hr i hi0 hc ht
  have hD := inv_deps_from c hn hf h0 s hr i
  -- a step that was never launched has executed nothing
  have hex : (s.nd i).launches = 0 → (s.nd i).execs = 0 := fun hz =>
    Nat.eq_zero_of_not_pos fun hpos => by have := hK.launched (.inr (.inr hpos)); omega
  simp only [NodeInv, Trig] at hK hD
  refine ⟨fun h => ?_, fun h => ?_, fun h d hd => ?_⟩
  · obtain ⟨hz, d, hd, hb⟩ := hLab _ h (Or.inl rfl)
    exact ⟨hex hz, d, hd, by simpa [readyEffect_block] using hb⟩
  · cases hp : (s.nd i).preSkip
    · obtain ⟨hz, d, hd, hb⟩ := hLab _ h (Or.inr ⟨rfl, hp⟩)
      exact Or.inr ⟨hex hz, d, hd, by simpa [readyEffect_block] using hb⟩
    · exact Or.inl ⟨rfl, by grind, fun d hd => (hD (Or.inr (Or.inr hp)) d hd).1⟩
  · exact (hD (Or.inr (Or.inl (launched_of_ran_from c hn h0 s hr i hi0 h))) d hd).1

end BdModel.Sched

#print axioms BdModel.Sched.deps_done_from
#print axioms BdModel.Sched.done_stable_from
#print axioms BdModel.Sched.final_terminal_from
#print axioms BdModel.Sched.label_consistent_from
