import BdModel.Proofs.Sched.Progress
/-
  Termination of the fine system: a natural-number measure that every transition other than a signal
  delivery strictly decreases unless it leaves the state unchanged (a visit of the loop that finds
  nothing to do, a repeated stop request). Together with deadlock freedom (`never_blocks_from` and
  `productive_enabled` below) it bounds every run, fresh or retry: at most `measure s0` productive
  transitions, after which `Schedule` has returned.
-/
namespace BdModel.Sched

-- where the constants of `phase`, `nodeMeasure` and `loopRank` come from is said at `NodeStep.measure_lt`
def phase : PC → NStatus → Nat
  | .idle, .none => 11
  | .idle, _ => 0
  | .setup, _ => 10
  | .check, _ => 9
  | .starting, _ => 8
  | .exec, _ => 7
  | .wErr, _ => 6
  | .wTimeout, _ => 6
  | .retrySleep, _ => 13
  | .tail, _ => 4
  | .td, _ => 3
  | .deferred, _ => 2
  | .gone, _ => 1

/-- remaining work of one step: retries left, position of its worker, old workers still to leave -/
def nodeMeasure (k : NodeCfg) (x : NodeSt) : Nat :=
  3 * ((k.limit - x.retry) * 40 + 2 * phase x.pc x.status + x.zombies + (if x.status = .running then 1 else 0))

def loopRank : LoopPC → Nat
  | .scanning => 6
  | .launching _ => 5
  | .waiting => 4
  | .handlers l => 1 + l.length
  | .returned => 0

def msum (k : Nat → NodeCfg) (n : Nat) (nd : Nat → NodeSt) : Nat :=
  ((List.range n).map (fun j => nodeMeasure (k j) (nd j))).sum

def measure (c : Cfg) (s : State) : Nat :=
  msum c.node c.n s.nd + loopRank s.loop + (if s.canceled then 0 else 1) + (if s.timedOut then 0 else 1)

theorem msum_updN_out (k : Nat → NodeCfg) (n : Nat) (nd : Nat → NodeSt) (i : Nat) (v : NodeSt) (hi : n ≤ i) :
    msum k n (updN nd i v) = msum k n nd := by
  unfold msum
  congr 1
  apply List.map_congr_left
  intro j hj
  have : j ≠ i := by have := List.mem_range.mp hj; omega
  simp [updN, this]

theorem msum_updN (k : Nat → NodeCfg) (n : Nat) (nd : Nat → NodeSt) (i : Nat) (v : NodeSt) (hi : i < n) :
    msum k n (updN nd i v) + nodeMeasure (k i) (nd i) = msum k n nd + nodeMeasure (k i) v := by
  induction n with
  | zero => omega
  | succ m ih =>
    have hs : ∀ f, msum k (m + 1) f = msum k m f + nodeMeasure (k m) (f m) := fun f => by simp [msum, List.range_succ]
    rw [hs, hs]
    by_cases hm : i = m
    · subst hm
      rw [msum_updN_out k i nd i v (Nat.le_refl i), updN_same]
      omega
    · have := ih (by omega)
      rw [updN_ne nd v (Ne.symm hm)]
      omega

variable {c : Cfg} {s s' : State} {a : Act}

theorem measure_node {i : Nat} {l : LoopPC} (y : NodeSt) (e : Bool) (hi : i < c.n) :
    measure c { s.setNode i y with lastErr := e, loop := l } + nodeMeasure (c.node i) (s.nd i) + loopRank s.loop =
    measure c s + nodeMeasure (c.node i) y + loopRank l := by
  have := msum_updN c.node c.n s.nd i y hi
  show msum c.node c.n (updN s.nd i y) + loopRank l + (if s.canceled then 0 else 1) + (if s.timedOut then 0 else 1) +
      nodeMeasure (c.node i) (s.nd i) + loopRank s.loop =
    msum c.node c.n s.nd + loopRank s.loop + (if s.canceled then 0 else 1) + (if s.timedOut then 0 else 1) +
      nodeMeasure (c.node i) y + loopRank l
  omega

/-- Every move of a node other than a signal delivery decreases the node's measure plus the loop's rank.
    This is where the constants of `phase` and `nodeMeasure` come from: the phases fall along the
    worker's way (setup 10 … gone 1); a retry goes back up from `exec` (7) to `retrySleep` (13) and on
    to `idle` without status (11, above `setup`, the old worker counted in `zombies`), which the 40 per
    retry left pays for (40 > 2·(13 − 7)); the factor 2 makes one phase outweigh the 1 a `running` status
    counts (a launch goes from 11 to 10 and turns `running` on); the outer factor 3 makes the drop at a
    launch or a skip outweigh the loop's rank going back up from `launching` (5) to `scanning` (6);
    `waiting` (4) lies above `handlers l` with the at most two handlers of a plan. -/
theorem NodeStep.measure_lt {i : Nat} {y : NodeSt} {e : Bool} (hm : NodeStep c s a i y e) (hn : NoRep c)
    (hN : (s.nd i).status = .none → (s.nd i).pc = .idle)
    (hL : s.loop = .launching i → (s.nd i).status = .none)
    (hs : ∀ sig ovr, a ≠ .signalNode i sig ovr) :
    nodeMeasure (c.node i) y + loopRank (a.loopAfter s.loop) <
      nodeMeasure (c.node i) (s.nd i) + loopRank s.loop := by
  cases hm with
  | label _ _ hst hl =>
    rcases isReady_label_cases c s i _ hl with rfl | rfl <;>
      simp [nodeMeasure, Act.loopAfter, hN hst, hst, phase]
  | preSkip hl =>
    simp [nodeMeasure, Act.loopAfter, hN (hL hl), hL hl, hl, phase, loopRank]
    omega
  | launch hl =>
    simp [nodeMeasure, Act.loopAfter, hN (hL hl), hL hl, hl, phase, loopRank]
    omega
  | signalRunning => exact absurd rfl (hs _ _)
  | signal => exact absurd rfl (hs _ _)
  | tailSet hp hst => cases hr : (s.nd i).ran <;> simp [nodeMeasure, Act.loopAfter, phase, hp, hst] <;> omega
  | _ =>
    cases hdc : c.doneChan <;> simp [nodeMeasure, Act.loopAfter, phase, aePc_noRep hn, *] <;> omega

/-- the transitions that can leave the state as it is: a loop visit with nothing to do, a repeated
    stop or timeout -/
def Act.idles : Act → Prop
  | .visitDecide _ | .setCanceled | .timeout => True
  | _ => False

theorem PC.next_not_idles (j : Nat) (p : PC) : ¬ (p.next j).idles := by
  cases p <;> simp [PC.next, Act.idles]

theorem PC.next_ne_signal (j : Nat) (p : PC) (i sig : Nat) (ovr : Bool) : p.next j ≠ .signalNode i sig ovr := by
  cases p <;> simp [PC.next]

theorem Step.measure (h : Step c s a s') (hn : NoRep c) (hI : Inv c s) :
    measure c s' < measure c s ∨ (s' = s ∧ a.idles) ∨
      ((∃ i sig ovr, a = .signalNode i sig ovr) ∧ s'.loop = s.loop ∧ measure c s' ≤ measure c s) := by
  cases h with
  | @node a i y e hm =>
    by_cases hsig : ∃ sig ovr, a = .signalNode i sig ovr
    · obtain ⟨sig, ovr, rfl⟩ := hsig
      -- a signal leaves pc, retry count and zombies alone and can only turn `running` into `cancel`
      refine Or.inr (Or.inr ⟨⟨i, sig, ovr, rfl⟩, rfl, ?_⟩)
      have hle : nodeMeasure (c.node i) y ≤ nodeMeasure (c.node i) (s.nd i) := by
        cases hm with
        | signalRunning sg _ _ _ hst => cases hp : (s.nd i).pc <;> simp [nodeMeasure, phase, hp, hst] <;> omega
        | signal sg => simp [nodeMeasure]
      by_cases hn' : i < c.n
      · have := measure_node (s := s) (l := s.loop) y (if e then true else s.lastErr) hn'
        show measure c { s.setNode i y with lastErr := _, loop := s.loop } ≤ _
        omega
      · show msum c.node c.n (updN s.nd i y) + _ + _ + _ ≤ _
        rw [msum_updN_out _ _ _ _ _ (Nat.le_of_not_lt hn')]
        exact Nat.le_refl _
    · left
      have hn' := (hm.lt_n hI).resolve_right fun ⟨sig, ovr, h⟩ => hsig ⟨sig, ovr, h⟩
      have hlt := hm.measure_lt hn (hI i).none_idle (fun h => ((hI i).launching h).2) fun sig ovr h => hsig ⟨sig, ovr, h⟩
      have := measure_node (s := s) (l := a.loopAfter s.loop) y (if e then true else s.lastErr) hn'
      omega
  | stay => exact Or.inr (Or.inl ⟨rfl, trivial⟩)
  | decide hsc => left; simp [measure, loopRank, hsc]
  | loopExit hsc => left; simp [measure, loopRank, hsc]
  | setCanceled =>
    by_cases hc : s.canceled = true
    · right; left
      cases s; simp_all [Act.idles]
    · left
      simp [measure, hc]
  | timeout =>
    by_cases hc : s.timedOut = true
    · right; left
      cases s; simp_all [Act.idles]
    · left
      simp [measure, hc]
  | waitAll hl =>
    left
    have : (handlerPlan c (overall c s)).length ≤ 2 := by
      unfold handlerPlan
      refine Nat.le_trans (List.length_filter_le _ _) ?_
      cases handlerOf (overall c s) <;> simp
    simp [measure, loopRank, hl]
    omega
  | handlerRun hl => left; simp [measure, loopRank, hl]
  | finish hl => left; simp [measure, loopRank, hl]

/-- **the measure.** Every transition of a run (fresh or retry) strictly decreases `measure`, or leaves
    the state unchanged (a loop visit with nothing to do, a repeated stop / timeout), or is a signal
    delivery, which never increases it. -/
theorem step_measure (c : Cfg) (hn : NoRep c) {s0 : State} (h0 : Start s0) (s : State)
    (hr : ReachFrom c s0 s) (a : Act) (s' : State) (hs : step c s a = some s') :
    measure c s' < measure c s ∨ s' = s ∨
      ((∃ i sig ovr, a = .signalNode i sig ovr) ∧ measure c s' ≤ measure c s) := by
  rcases (step_sound hs).measure hn (hr.inv hn h0) with h | h | h
  · exact Or.inl h
  · exact Or.inr (Or.inl h.1)
  · exact Or.inr (Or.inr ⟨h.1, h.2.2⟩)

/-- **progress.** In every state of every run (fresh or retry) in which `Schedule` has not returned,
    some transition is enabled that strictly decreases the measure. -/
theorem productive_enabled (c : Cfg) (hw : WF c) (hrk : Ranked c) (hn : NoRep c) {s0 : State} (h0 : Start s0)
    (s : State) (hr : ReachFrom c s0 s) (hnr : s.loop ≠ .returned) :
    ∃ a s', step c s a = some s' ∧ measure c s' < measure c s := by
  have hI := hr.inv hn h0
  -- an enabled action that is neither a signal nor one that may leave the state alone is productive
  have en : ∀ a, (step c s a).isSome = true → ¬ a.idles → (∀ i sig ovr, a ≠ .signalNode i sig ovr) →
      ∃ a s', step c s a = some s' ∧ measure c s' < measure c s := fun a h h1 h2 => by
    obtain ⟨s', hs⟩ := Option.isSome_iff_exists.mp h
    rcases (step_sound hs).measure hn hI with h | h | h
    · exact ⟨a, s', hs, h⟩
    · exact absurd h.2 h1
    · obtain ⟨⟨i, sig, ovr, h⟩, -⟩ := h
      exact absurd h (h2 i sig ovr)
  -- a worker that has not left yet, or an old worker still around, has an enabled action
  have worker : ∀ j, ((s.nd j).pc ≠ .idle ∧ (s.nd j).pc ≠ .gone) ∨ (s.nd j).zombies ≠ 0 →
      ∃ a s', step c s a = some s' ∧ measure c s' < measure c s := fun j h => by
    rcases h with ⟨h1, h2⟩ | h
    · exact en _ (worker_enabled c s j h1 h2) (PC.next_not_idles j _) (PC.next_ne_signal j _)
    · exact en (.zombie j) (by simp [step]; omega) (by simp [Act.idles]) (by simp)
  cases hl : s.loop with
  | returned => exact absurd hl hnr
  | scanning =>
    by_cases hex : isFinished c s = true ∨ s.canceled = true
    · exact en .loopExit (by simp [step, hl, hex]) (by simp [Act.idles]) (by simp)
    · have hnf : isFinished c s = false := by
        cases h : isFinished c s <;> simp_all
      have hnc : s.canceled = false := by
        cases h : s.canceled <;> simp_all
      rcases never_blocks_from c hw hrk h0 s hr hl hnc hnf with ⟨j, -, hrun, -⟩ | ⟨i, s', hs, hne⟩
      · have := hr.busy h0 j hrun
        exact worker j (Or.inl ⟨this.1, this.2.2.2⟩)
      · refine ⟨_, s', hs, ?_⟩
        rcases (step_sound hs).measure hn hI with h | h | ⟨⟨_, _, _, h⟩, -⟩
        · exact h
        · exact absurd h.1 hne
        · cases h
  | launching i =>
    exact en (.visitLaunch i true) (by simp only [step, hl, if_true]; split <;> rfl) (by simp [Act.idles]) (by simp)
  | waiting =>
    by_cases hwd : workersDone c s = true
    · exact en .waitAll (by simp [step, hl, hwd]) (by simp [Act.idles]) (by simp)
    · simp only [workersDone_iff, Classical.not_forall] at hwd
      obtain ⟨j, -, h⟩ := hwd
      exact worker j (by grind)
  | handlers l =>
    cases l with
    | nil => exact en .finish (by simp [step, hl]) (by simp [Act.idles]) (by simp)
    | cons h rest => exact en (.handlerRun true) (by simp [step, hl]) (by simp [Act.idles]) (by simp)

/-- number of transitions of a run that strictly decrease the measure -/
def descents (c : Cfg) : State → List Act → Nat
  | _, [] => 0
  | s, a :: as =>
    match step c s a with
    | some s' => (if measure c s' < measure c s then 1 else 0) + descents c s' as
    | none => 0

/-- **bound.** However the threads interleave and however long the action sequence is, at most
    `measure c s` of its transitions decrease the measure — and by `step_measure` every other
    transition leaves the state unchanged or is a signal delivery. -/
theorem descents_le (c : Cfg) (hn : NoRep c) {s0 : State} (h0 : Start s0) :
    ∀ (as : List Act) (s : State), ReachFrom c s0 s → descents c s as ≤ measure c s := by
  intro as
  induction as with
  | nil => intro s _; simp [descents]
  | cons a as ih =>
    intro s hr
    simp only [descents]
    cases hs : step c s a with
    | none => simp
    | some s' =>
      have hr' : ReachFrom c s0 s' := .step a hr hs
      have h1 := ih s' hr'
      simp only
      rcases step_measure c hn h0 s hr a s' hs with h | h | ⟨-, h⟩
      · simp [h]; omega
      · subst h; simp; exact h1
      · split <;> omega

/-- **termination.** From every state of every run (fresh or retry) there is a continuation after which
    `Schedule` has returned; by `productive_enabled` + `descents_le` every continuation that keeps
    taking measure-decreasing transitions while one is enabled is such a continuation, and it is at most
    `measure c s` transitions long. -/
theorem can_return (c : Cfg) (hw : WF c) (hrk : Ranked c) (hn : NoRep c) {s0 : State} (h0 : Start s0) :
    ∀ (m : Nat) (s : State), ReachFrom c s0 s → measure c s = m →
      ∃ as s', runActs c s as = some s' ∧ s'.loop = .returned ∧ as.length ≤ m := by
  intro m
  induction m using Nat.strongRecOn with
  | _ m ih =>
    intro s hr hm
    by_cases hl : s.loop = .returned
    · exact ⟨[], s, rfl, hl, Nat.zero_le _⟩
    · obtain ⟨a, s1, hs, hlt⟩ := productive_enabled c hw hrk hn h0 s hr hl
      obtain ⟨as, s', hrun, hret, hlen⟩ := ih (measure c s1) (by omega) s1 (.step a hr hs) rfl
      refine ⟨a :: as, s', by simp [runActs, hs, hrun], hret, ?_⟩
      simp; omega

end BdModel.Sched

#print axioms BdModel.Sched.step_measure
#print axioms BdModel.Sched.productive_enabled
#print axioms BdModel.Sched.descents_le
#print axioms BdModel.Sched.can_return
