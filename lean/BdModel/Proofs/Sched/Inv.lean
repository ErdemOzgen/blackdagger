import BdModel.Proofs.Sched.Step
/-
  The states `Schedule` can be entered in (`Start`: a fresh graph, or what `setupRetry` hands over for
  a retry), and the invariant of one node's state that every run from such a state keeps, for graphs
  without repeat policies. Everything in `Proofs/Sched` is proved for `ReachFrom c s0 s` with
  `Start s0`; a fresh run is the case `s0 = init c` (`start_init`, `Reach.reachFrom`).
-/
namespace BdModel.Sched

/-- a node as `NewExecutionGraphForRetry` + `setupRetry` leave a KEPT step: recorded result finished or
    skipped, recorded counters, no worker, nothing executed in this run -/
def KeptNode (x : NodeSt) : Prop :=
  ∃ st r d, (st = NStatus.success ∨ st = NStatus.skipped) ∧ x = { status := st, retry := r, doneCnt := d }

/-- the states `Schedule` is entered in -/
structure Start (s0 : State) : Prop where
  canceled : s0.canceled = false
  lastErr  : s0.lastErr = false
  timedOut : s0.timedOut = false
  loop     : s0.loop = .scanning
  hlog     : s0.hlog = []
  hplan    : s0.hplan = none
  atWait   : s0.atWait = none
  nodes    : ∀ j, s0.nd j = {} ∨ KeptNode (s0.nd j)

theorem start_init (c : Cfg) : Start (init c) :=
  ⟨rfl, rfl, rfl, rfl, rfl, rfl, rfl, fun _ => Or.inl rfl⟩

theorem Start.node_idle {s0 : State} (h0 : Start s0) (j : Nat) :
    (s0.nd j).pc = .idle ∧ (s0.nd j).zombies = 0 ∧ (s0.nd j).execs = 0 ∧ (s0.nd j).launches = 0 ∧
    (s0.nd j).preSkip = false ∧ (s0.nd j).ranLast = false ∧ (s0.nd j).cmd = false ∧ (s0.nd j).ran = false ∧
    (s0.nd j).setupFailed = false := by
  rcases h0.nodes j with h | ⟨st, r, d, hst, h⟩ <;> simp [h]

theorem Start.node_status {s0 : State} (h0 : Start s0) (j : Nat) :
    (s0.nd j).status = .none ∨ (s0.nd j).status = .success ∨ (s0.nd j).status = .skipped := by
  rcases h0.nodes j with h | ⟨st, r, d, hst, h⟩
  · simp [h]
  · exact Or.inr (by simpa [h] using hst)

/-- What holds of the state `x` of node `j` in every state of every run without repeat policies;
    `cn`, `to`, `l` are the state's stop flag, timeout flag and loop position. In this order:
    no status ⇒ no worker; the loop launches only a step of the graph that has no status yet; nothing
    outside the graph has a worker; a finished step has a worker past its last attempt or was never
    launched in this run (kept), a failed one is past its last attempt, a skipped one has no
    worker; the timeout branch is taken only after the timeout fired; whatever has a worker, runs or
    has executed was launched; only a step with preconditions is skipped by them; in an unstopped run
    a worker past `execStart` (or at `tail`, node still `running`) has executed, a worker that may
    still execute has its node `running`, and — not timed out either — only the loop writes `cancel`,
    on nodes without a worker. -/
def NodeInv (c : Cfg) (cn to : Bool) (l : LoopPC) (j : Nat) (x : NodeSt) : Prop :=
  (x.status = .none → x.pc = .idle) ∧
  (l = .launching j → j < c.n ∧ x.status = .none) ∧
  (c.n ≤ j → x.pc = .idle ∧ x.zombies = 0) ∧
  (x.status = .success →
    x.pc = .td ∨ x.pc = .deferred ∨ x.pc = .gone ∨ (x.pc = .idle ∧ x.launches = 0 ∧ x.execs = 0)) ∧
  (x.status = .error → x.pc = .tail ∨ x.pc = .td ∨ x.pc = .deferred ∨ x.pc = .gone) ∧
  (x.status = .skipped → x.pc = .idle) ∧
  (x.pc = .wTimeout → to = true) ∧
  (x.pc ≠ .idle ∨ x.status = .running ∨ 0 < x.execs → 0 < x.launches) ∧
  (x.preSkip = true → (c.node j).hasPre = true) ∧
  (cn = false → x.pc = .exec ∨ x.pc = .wErr ∨ x.pc = .wTimeout ∨ x.pc = .retrySleep ∨
    (x.pc = .tail ∧ x.status = .running) → x.ran = true) ∧
  (cn = false → x.status ≠ .running →
    x.pc = .idle ∨ x.pc = .tail ∨ x.pc = .td ∨ x.pc = .deferred ∨ x.pc = .gone) ∧
  (cn = false → to = false → x.status = .cancel → x.pc = .idle)

variable {c : Cfg} {s s' : State} {a : Act} {cn cn' to to' : Bool} {l l' : LoopPC} {j : Nat} {x : NodeSt}

theorem NodeInv.none_idle (h : NodeInv c cn to l j x) : x.status = .none → x.pc = .idle := h.1
theorem NodeInv.launching (h : NodeInv c cn to l j x) : l = .launching j → j < c.n ∧ x.status = .none := h.2.1
theorem NodeInv.outside (h : NodeInv c cn to l j x) : c.n ≤ j → x.pc = .idle ∧ x.zombies = 0 := h.2.2.1
theorem NodeInv.wTimeout (h : NodeInv c cn to l j x) : x.pc = .wTimeout → to = true := h.2.2.2.2.2.2.1
theorem NodeInv.launched (h : NodeInv c cn to l j x) :
    x.pc ≠ .idle ∨ x.status = .running ∨ 0 < x.execs → 0 < x.launches := h.2.2.2.2.2.2.2.1
theorem NodeInv.ran (h : NodeInv c cn to l j x) : cn = false → x.pc = .exec ∨ x.pc = .wErr ∨ x.pc = .wTimeout ∨
    x.pc = .retrySleep ∨ (x.pc = .tail ∧ x.status = .running) → x.ran = true := h.2.2.2.2.2.2.2.2.2.1
theorem NodeInv.inactive (h : NodeInv c cn to l j x) : cn = false → x.status ≠ .running →
    x.pc = .idle ∨ x.pc = .tail ∨ x.pc = .td ∨ x.pc = .deferred ∨ x.pc = .gone := h.2.2.2.2.2.2.2.2.2.2.1

theorem NodeInv.mono (h : NodeInv c cn to l j x) (hc : cn' = false → cn = false) (ht : to' = false → to = false)
    (hl : l' = .launching j → j < c.n ∧ x.status = .none) : NodeInv c cn' to' l' j x := by
  simp only [NodeInv] at h ⊢
  grind

def Inv (c : Cfg) (s : State) : Prop := ∀ j, NodeInv c s.canceled s.timedOut s.loop j (s.nd j)

theorem Start.inv {s0 : State} (h0 : Start s0) (c : Cfg) : Inv c s0 := by
  intro j
  have := h0.node_idle j
  have := h0.node_status j
  simp only [NodeInv, h0.loop]
  grind

theorem Inv.step (hn : NoRep c) (h : Step c s a s') (ih : Inv c s) : Inv c s' := by
  intro j
  cases h with
  | @node a i y e h =>
    show NodeInv c s.canceled s.timedOut (a.loopAfter s.loop) j (updN s.nd i y j)
    refine updN_cases ((ih j).mono id id fun hl => (ih j).launching (Act.loopAfter_launching hl)) ?_
    rintro rfl
    have hlab := isReady_label_cases c s j
    have hae := aePc_noRep hn s.canceled j
    have ih := ih j
    simp only [NodeInv] at ih ⊢
    cases h <;> (try simp only [after, Act.loopAfter] at *) <;> grind
  | stay => exact ih j
  | decide hsc hi hst => exact (ih j).mono id id (by rintro ⟨rfl⟩; exact ⟨hi, hst⟩)
  | loopExit => exact (ih j).mono id id (by simp)
  | setCanceled => exact (ih j).mono (by simp) id (ih j).launching
  | timeout => exact (ih j).mono id (by simp) (ih j).launching
  | waitAll => exact (ih j).mono id id (by simp)
  | handlerRun => exact (ih j).mono id id (by simp)
  | finish => exact (ih j).mono id id (by simp)

/-- outside the graph there is no worker and nothing for the loop to do: only a signal can arrive -/
theorem NodeStep.lt_n {i : Nat} {y : NodeSt} {e : Bool} (hm : NodeStep c s a i y e) (hI : Inv c s) :
    i < c.n ∨ ∃ sig ovr, a = .signalNode i sig ovr := by
  refine Classical.or_iff_not_imp_left.2 fun hi => ?_
  have h := (hI i).outside (Nat.le_of_not_lt hi)
  have hl := (hI i).launching
  cases hm <;> first | exact ⟨_, _, rfl⟩ | simp_all

theorem ReachFrom.inv (hn : NoRep c) {s0 : State} (h0 : Start s0) (hr : ReachFrom c s0 s) : Inv c s := by
  induction hr with
  | init => exact h0.inv c
  | step a _ hs ih => exact ih.step hn (step_sound hs)

/-- a `running` node has a live worker — whatever the repeat policies -/
theorem ReachFrom.busy {s0 : State} (h0 : Start s0) (hr : ReachFrom c s0 s) (j : Nat) :
    (s.nd j).status = .running →
      (s.nd j).pc ≠ .idle ∧ (s.nd j).pc ≠ .td ∧ (s.nd j).pc ≠ .deferred ∧ (s.nd j).pc ≠ .gone := by
  refine hr.node_induction
    (Q := fun x => x.status = .running → x.pc ≠ .idle ∧ x.pc ≠ .td ∧ x.pc ≠ .deferred ∧ x.pc ≠ .gone) j
    (by have := h0.node_status j; grind) fun s a y e _ hm ih => ?_
  have hlab := isReady_label_cases c s j
  have hae := Lim.aePc_cases c s.canceled j
  -- after a successful attempt the worker goes on (`check`) or to its `tail`, where the status is rewritten
  have hok : Lim.aePc c s.canceled j true = .check ∨ Lim.aePc c s.canceled j true = .tail := by
    unfold Lim.aePc; split <;> simp
  cases hm <;> (try simp only [after]) <;> grind

end BdModel.Sched
