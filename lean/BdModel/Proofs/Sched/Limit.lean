import BdModel.Proofs.Sched.Order
/-
  C15 (the `maxActiveRuns` limit) and C03 (bookkeeping of attempts) for every run `Schedule` can make;
  the bookkeeping for the steps that start from scratch there — in a retry run the steps `setupRetry`
  has reset.
-/
namespace BdModel.Sched
open Lim

variable {c : Cfg} {s s' : State} {a : Act}

theorem retry_le_limit_from (c : Cfg) {s0 : State} (s : State) (hr : ReachFrom c s0 s) (i : Nat)
    (hi : s0.nd i = {}) : (s.nd i).retry ≤ (c.node i).limit := by
  refine hr.node_induction (Q := fun x => x.retry ≤ (c.node i).limit) i (by simp [hi]) fun s a y e _ hm ih => ?_
  cases hm <;> simp_all <;> omega

theorem dry_no_exec_from (c : Cfg) (hd : c.dry = true) {s0 : State} (s : State) (hr : ReachFrom c s0 s) (i : Nat) :
    (s.nd i).execs = (s0.nd i).execs := by
  refine hr.node_induction (Q := fun x => x.execs = (s0.nd i).execs) i rfl fun s a y e _ hm ih => ?_
  cases hm <;> simp_all

theorem executing_le_active (c : Cfg) (s : State) : executing c s ≤ activeWorkers c s := by
  rw [executing_eq, activeWorkers_eq]
  apply cnt_mono
  intro j _
  cases (s.nd j).pc <;> simp

/-! ### C15: the `maxActiveRuns` limit -/

/-- A count over the nodes that only a launch can raise, and that the loop finds below `k` when it
    decides to launch, stays within `k` — and below `k` while a launch is pending. -/
theorem Step.count_le {q : NodeSt → Bool} {k : Nat} (h : Step c s a s')
    (hq : ∀ i y e, NodeStep c s a i y e → q y = true → q (s.nd i) = true ∨ ∃ p, a = .visitLaunch i p)
    (hd : s.canceled = false → (c.maxActive > 0 → runningCount c s < c.maxActive) → cnt q c.n s.nd < k)
    (ih : cnt q c.n s.nd ≤ k ∧ ∀ i, s.loop = .launching i → cnt q c.n s.nd < k) :
    cnt q c.n s'.nd ≤ k ∧ ∀ i, s'.loop = .launching i → cnt q c.n s'.nd < k := by
  cases h with
  | @node a i y e hm =>
    by_cases hl : ∃ p, a = .visitLaunch i p
    · obtain ⟨p, rfl⟩ := hl
      have hlt : cnt q c.n s.nd < k := by cases hm <;> exact ih.2 i ‹_›
      have : cnt q c.n (updN s.nd i y) ≤ cnt q c.n s.nd + 1 :=
        cnt_frame_succ i fun j hj => by simp [hj]
      exact ⟨by simp only [setNode_nd]; omega, fun j hj => by simp [Act.loopAfter] at hj⟩
    · have : cnt q c.n (updN s.nd i y) ≤ cnt q c.n s.nd := cnt_mono fun j _ hy => by
        rw [updN_apply] at hy
        split at hy
        · subst ‹j = i›
          exact (hq j y e hm hy).resolve_right hl
        · exact hy
      refine ⟨Nat.le_trans this ih.1, fun j hj => Nat.lt_of_le_of_lt this (ih.2 j ?_)⟩
      exact Act.loopAfter_launching hj
  | decide _ _ _ hcn hm => exact ⟨ih.1, fun _ _ => hd hcn hm⟩
  | _ => first | exact ih | exact ⟨ih.1, fun j hj => by simp at hj⟩

theorem runningCount_inv_from (c : Cfg) {s0 : State} (h0 : Start s0) (s : State) (hr : ReachFrom c s0 s)
    (hk : 0 < c.maxActive) :
    runningCount c s ≤ c.maxActive ∧ ∀ i, s.loop = .launching i → runningCount c s < c.maxActive := by
  simp only [runningCount_eq]
  induction hr with
  | init =>
    rw [cnt_zero fun j => by have := h0.node_status j; grind]
    exact ⟨Nat.zero_le _, fun i hi => by simp [h0.loop] at hi⟩
  | @step s s' a hr hs ih =>
    refine (step_sound hs).count_le (fun i y e hm => ?_) (fun _ hm => hm hk) ih
    have := isReady_label_cases c s i
    cases hm <;> simp_all <;> grind

theorem runningCount_le_from (c : Cfg) {s0 : State} (h0 : Start s0) (s : State) (hr : ReachFrom c s0 s)
    (hk : 0 < c.maxActive) : runningCount c s ≤ c.maxActive := (runningCount_inv_from c h0 s hr hk).1

theorem activeWorkers_inv_from (c : Cfg) (hn : NoRep c) {s0 : State} (h0 : Start s0) (s : State)
    (hr : ReachFrom c s0 s) (hk : 0 < c.maxActive) :
    activeWorkers c s ≤ c.maxActive ∧ ∀ i, s.loop = .launching i → activeWorkers c s < c.maxActive := by
  simp only [activeWorkers_eq]
  induction hr with
  | init =>
    rw [cnt_zero fun j => by simp [(h0.node_idle j).1]]
    exact ⟨Nat.zero_le _, fun i hi => by simp [h0.loop] at hi⟩
  | @step s s' a hr hs ih =>
    refine (step_sound hs).count_le (fun i y e hm => ?_) (fun hcn hm => ?_) ih
    · have hae := aePc_noRep_cases hn s.canceled i
      cases hm <;> simp_all <;> grind
    · -- unstopped: every active worker's node is `running`, and the loop found fewer than k of those
      refine Nat.lt_of_le_of_lt (cnt_mono fun x _ hx => ?_) (runningCount_eq c _ ▸ hm hk)
      simpa using active_running_from c hn h0 _ hr hcn x hx

theorem activeWorkers_le_from (c : Cfg) (hn : NoRep c) {s0 : State} (h0 : Start s0) (s : State)
    (hr : ReachFrom c s0 s) (hk : 0 < c.maxActive) :
    activeWorkers c s ≤ c.maxActive := (activeWorkers_inv_from c hn h0 s hr hk).1

theorem executing_le_from (c : Cfg) (hn : NoRep c) {s0 : State} (h0 : Start s0) (s : State)
    (hr : ReachFrom c s0 s) (hk : 0 < c.maxActive) :
    executing c s ≤ c.maxActive :=
  Nat.le_trans (executing_le_active c s) (activeWorkers_le_from c hn h0 s hr hk)

/-! ### C03: bookkeeping of attempts -/

/-- bookkeeping of a step that starts the run from scratch: executions = retries + the current
    attempt; the ghost flag `ranLast` (set by `execStart` together with the worker's `executed` flag
    `ran`) is off before the attempt starts and on while it runs -/
def BookInv (x : NodeSt) : Prop :=
  x.execs = x.retry + (if x.ranLast then 1 else 0) ∧
  ((x.pc = .setup ∨ x.pc = .check ∨ x.pc = .starting ∨ x.pc = .retrySleep ∨ x.status = .none) →
    x.ranLast = false) ∧
  (x.pc = .exec → x.ranLast = true) ∧
  (x.ranLast = true → x.ran = true)

theorem book_inv_from (c : Cfg) (hn : NoRep c) (hd : c.dry = false) {s0 : State} (h0 : Start s0) (s : State)
    (hr : ReachFrom c s0 s) (j : Nat) (hj : s0.nd j = {}) : BookInv (s.nd j) := by
  refine hr.node_induction j (by simp [hj, BookInv]) fun s a y e hr hm ih => ?_
  have hN := (hr.inv hn h0 j).none_idle
  have hL := (hr.inv hn h0 j).launching
  have hae := aePc_noRep hn s.canceled j
  simp only [BookInv] at *
  cases hm <;> (try simp only [after]) <;> grind

theorem execs_eq_from (c : Cfg) (hn : NoRep c) (hd : c.dry = false) {s0 : State} (h0 : Start s0) (s : State)
    (hr : ReachFrom c s0 s) (i : Nat) (hi : s0.nd i = {}) :
    (s.nd i).execs = (s.nd i).retry + (if (s.nd i).ranLast then 1 else 0) :=
  (book_inv_from c hn hd h0 s hr i hi).1

/-! ### C03: final accounting of an unstopped run -/

/-- what `final_counts_from` needs of a fresh node of an unstopped, un-timed-out run. The last clause is as weak as it is
    because a step skipped by its PRECONDITION may have executed before: a retry wake-up hands it back without a status, the
    loop launches it again and evaluates the precondition again. -/
def FinInv (c : Cfg) (i : Nat) (x : NodeSt) : Prop :=
  (x.pc = .tail → x.status = .running → x.ranLast = true) ∧
  (x.status = .success → x.ranLast = true) ∧
  (x.pc = .wErr → x.ranLast = true ∧ x.retry = (c.node i).limit) ∧
  (x.status = .error →
    (x.setupFailed = true ∧ x.ranLast = false) ∨ (x.ranLast = true ∧ x.retry = (c.node i).limit)) ∧
  (x.status = .cancel → x.execs = 0) ∧
  (x.status = .skipped → x.ranLast = false ∧ (x.preSkip = false → x.execs = 0))

theorem fin_inv_from (c : Cfg) (hn : NoRep c) (hdry : c.dry = false) (hf : c.tdFaults = false)
    {s0 : State} (h0 : Start s0) (s : State) (hr : ReachFrom c s0 s)
    (hc : s.canceled = false) (ht : s.timedOut = false) (j : Nat) (hj : s0.nd j = {}) :
    FinInv c j (s.nd j) := by
  induction hr with
  | init => simp [hj, FinInv]
  | @step s s' a hr hs ih =>
    have hfl := (step_sound hs).flags
    replace ih := ih (hfl.1 hc) (hfl.2 ht)
    rcases (step_sound hs).nd j with he | ⟨e, hm⟩
    · rwa [he]
    · have hN := (hr.inv hn h0 j).none_idle
      have hL := (hr.inv hn h0 j).launching
      have hV := (hr.inv hn h0 j).inactive (hfl.1 hc)
      have hLa := (hr.inv hn h0 j).launched
      have hT := (hr.inv hn h0 j).wTimeout
      have ht0 := hfl.2 ht
      have hB := book_inv_from c hn hdry h0 s hr j hj
      -- with the guard `¬ limit > retry` of the last failed attempt this gives `retry = limit` at `wErr`
      have hR := retry_le_limit_from c s hr j hj
      have hae := aePc_noRep hn s.canceled j
      -- a labelled step was never launched, hence (`hLa`) never executed: the `cancel` and `skipped` clauses; and unstopped,
      -- a node that is not `running` has no active worker (`hV`), so `tailSet` is the only writer of `success`
      have hlab : ∀ l, (isReady c s j).2 = some l → (l = .cancel ∨ l = .skipped) ∧ (s.nd j).launches = 0 :=
        fun l hl => ⟨isReady_label_cases c s j l hl, not_launched_of_label c hn hf h0 s hr hl⟩
      simp only [BookInv, FinInv] at *
      generalize s'.nd j = y at hm ⊢
      cases hm <;> (try simp only [after]) <;> grind

theorem final_counts_from (c : Cfg) (hn : NoRep c) (hdry : c.dry = false) (hf : c.tdFaults = false)
    {s0 : State} (h0 : Start s0) (s : State) (hr : ReachFrom c s0 s)
    (hc : s.canceled = false) (ht : s.timedOut = false) (i : Nat) (hi : s0.nd i = {}) :
    ((s.nd i).status = .success → (s.nd i).execs = (s.nd i).retry + 1) ∧
    ((s.nd i).status = .error →
        ((s.nd i).setupFailed = true ∧ (s.nd i).execs = (s.nd i).retry) ∨
        ((s.nd i).execs = (c.node i).limit + 1 ∧ (s.nd i).retry = (c.node i).limit)) ∧
    ((s.nd i).status = .cancel → (s.nd i).execs = 0) ∧
    ((s.nd i).status = .skipped →
        (s.nd i).execs = (s.nd i).retry ∧ ((s.nd i).preSkip = false → (s.nd i).execs = 0)) := by
  have hE := execs_eq_from c hn hdry h0 s hr i hi
  obtain ⟨-, h2, -, h4, h6, h7⟩ := fin_inv_from c hn hdry hf h0 s hr hc ht i hi
  refine ⟨fun h => ?_, fun h => ?_, h6, fun h => ?_⟩
  · simpa [h2 h] using hE
  · rcases h4 h with ⟨h1, h3⟩ | ⟨h1, h3⟩
    · exact Or.inl ⟨h1, by simpa [h3] using hE⟩
    · exact Or.inr ⟨by simp [h1] at hE; omega, h3⟩
  · obtain ⟨h1, h3⟩ := h7 h
    exact ⟨by simpa [h1] using hE, h3⟩

end BdModel.Sched

#print axioms BdModel.Sched.executing_le_active
#print axioms BdModel.Sched.runningCount_le_from
#print axioms BdModel.Sched.activeWorkers_le_from
#print axioms BdModel.Sched.executing_le_from
#print axioms BdModel.Sched.dry_no_exec_from
#print axioms BdModel.Sched.final_counts_from
#print axioms BdModel.Sched.execs_eq_from
#print axioms BdModel.Sched.retry_le_limit_from
