import BdModel.Proofs.Sched.Basic
/-
  The transition function `step` as a relation. `Step c s a s'` has one constructor per kind of move;
  the moves that rewrite the state of one node (`NodeStep`: a worker goroutine, the loop labelling a
  blocked step, a signal) are set apart from those of the loop and of the stop / timeout flags, so
  that a proof about one node deals with the frame once and then looks at the node's new state only.
  `Step` is what a transition of `step` IMPLIES (`step_sound`), not more: `Step.stay` has no guard, and
  what a signal makes of `sigs` while the command runs is left open. Invariants and one-step facts are proved by
  `cases` on it; whether an action is ENABLED, and facts about a single action's result, are read off
  `step` itself.
-/
namespace BdModel.Sched
open Lim

/-- `NodeStep c s a i y e`: action `a` replaces the state of node `i` by `y`; `e`: it records an error
    (`lastErr := true`). The loop labelling a blocked step, skipping a step by its preconditions or
    launching it; the moves of a worker goroutine; the delivery of a signal. -/
inductive NodeStep (c : Cfg) (s : State) : Act → Nat → NodeSt → Bool → Prop
  | label {i : Nat} {l : NStatus} : s.loop = .scanning → i < c.n → (s.nd i).status = .none → (isReady c s i).2 = some l →
      NodeStep c s (.visitDecide i) i { s.nd i with status := l } false
  | preSkip {i : Nat} {preOk : Bool} : s.loop = .launching i → (c.node i).hasPre ∧ preOk = false →
      NodeStep c s (.visitLaunch i preOk) i { s.nd i with status := .skipped, preSkip := true } false
  | launch {i : Nat} {preOk : Bool} : s.loop = .launching i → ¬ ((c.node i).hasPre ∧ preOk = false) →
      NodeStep c s (.visitLaunch i preOk) i
        { s.nd i with status := .running, pc := .setup, ran := false, launches := (s.nd i).launches + 1 } false
  | setupOk {i : Nat} {ok : Bool} : (s.nd i).pc = .setup → c.dry ∨ ok →
      NodeStep c s (.setupDone i ok) i { s.nd i with pc := .check } false
  | setupFail {i : Nat} {ok : Bool} : (s.nd i).pc = .setup → ¬ (c.dry ∨ ok) →
      NodeStep c s (.setupDone i ok) i { s.nd i with pc := .tail, status := .error, setupFailed := true } true
  | checkStop {i : Nat} : (s.nd i).pc = .check → s.canceled →
      NodeStep c s (.check i) i { s.nd i with pc := .tail } false
  | checkGo {i : Nat} : (s.nd i).pc = .check → ¬ s.canceled →
      NodeStep c s (.check i) i { s.nd i with pc := .starting } false
  | startDry {i : Nat} : (s.nd i).pc = .starting → c.dry →
      NodeStep c s (.execStart i) i { s.nd i with pc := .exec, ran := true } false
  | start {i : Nat} : (s.nd i).pc = .starting → ¬ c.dry →
      NodeStep c s (.execStart i) i
        { s.nd i with pc := .exec, ran := true, cmd := true, execs := (s.nd i).execs + 1, ranLast := true, sigs := [] } false
  | endOk {i : Nat} {ok : Bool} : (s.nd i).pc = .exec → c.dry ∨ ok →
      NodeStep c s (.execEnd i ok) i (after c s.canceled i true (s.nd i)) false
  | endLabelled {i : Nat} {ok : Bool} : (s.nd i).pc = .exec → ¬ (c.dry ∨ ok) →
      (s.nd i).status = .success ∨ (s.nd i).status = .cancel →
      NodeStep c s (.execEnd i ok) i (after c s.canceled i false (s.nd i)) false
  | endTimeout {i : Nat} {ok : Bool} : (s.nd i).pc = .exec → ¬ (c.dry ∨ ok) →
      ¬ ((s.nd i).status = .success ∨ (s.nd i).status = .cancel) → s.timedOut →
      NodeStep c s (.execEnd i ok) i { s.nd i with pc := .wTimeout } false
  | endStopped {i : Nat} {ok : Bool} : (s.nd i).pc = .exec → ¬ (c.dry ∨ ok) →
      ¬ ((s.nd i).status = .success ∨ (s.nd i).status = .cancel) → ¬ s.timedOut → s.canceled →
      NodeStep c s (.execEnd i ok) i (after c s.canceled i false { s.nd i with status := .cancel }) true
  | endRetry {i : Nat} {ok : Bool} : (s.nd i).pc = .exec → ¬ (c.dry ∨ ok) →
      ¬ ((s.nd i).status = .success ∨ (s.nd i).status = .cancel) → ¬ s.timedOut → ¬ s.canceled →
      (c.node i).limit > (s.nd i).retry →
      NodeStep c s (.execEnd i ok) i
        { s.nd i with retry := (s.nd i).retry + 1, ranLast := false, pc := .retrySleep } false
  | endFail {i : Nat} {ok : Bool} : (s.nd i).pc = .exec → ¬ (c.dry ∨ ok) →
      ¬ ((s.nd i).status = .success ∨ (s.nd i).status = .cancel) → ¬ s.timedOut → ¬ s.canceled →
      ¬ (c.node i).limit > (s.nd i).retry →
      NodeStep c s (.execEnd i ok) i { s.nd i with pc := .wErr } false
  | writeErr {i : Nat} : (s.nd i).pc = .wErr →
      NodeStep c s (.postWrite i) i (after c s.canceled i false { s.nd i with status := .error }) true
  | writeTimeout {i : Nat} : (s.nd i).pc = .wTimeout →
      NodeStep c s (.postWrite i) i (after c s.canceled i false { s.nd i with status := .cancel }) true
  | wakeRepeat {i : Nat} : (s.nd i).pc = .retrySleep →
      (after c s.canceled i false { s.nd i with status := .none }).pc = .check →
      NodeStep c s (.retryWake i) i (after c s.canceled i false { s.nd i with status := .none }) false
  | wake {i : Nat} : (s.nd i).pc = .retrySleep →
      (after c s.canceled i false { s.nd i with status := .none }).pc ≠ .check →
      NodeStep c s (.retryWake i) i
        { after c s.canceled i false { s.nd i with status := .none } with
          pc := .idle, zombies := (s.nd i).zombies + 1 } false
  | tailSet {i : Nat} : (s.nd i).pc = .tail → (s.nd i).status = .running →
      NodeStep c s (.tail i) i
        { s.nd i with status := if (s.nd i).ran then .success else .cancel, pc := .td } false
  | tailKeep {i : Nat} : (s.nd i).pc = .tail → (s.nd i).status ≠ .running →
      NodeStep c s (.tail i) i { s.nd i with pc := .td } false
  | teardownOk {i : Nat} {tdOk : Bool} : (s.nd i).pc = .td → c.dry ∨ tdOk ∨ c.tdFaults = false →
      NodeStep c s (.teardown i tdOk) i { s.nd i with pc := .deferred } false
  | teardownFail {i : Nat} {tdOk : Bool} : (s.nd i).pc = .td → ¬ (c.dry ∨ tdOk ∨ c.tdFaults = false) →
      NodeStep c s (.teardown i tdOk) i { s.nd i with pc := .deferred, status := .error } true
  | deferred {i : Nat} : (s.nd i).pc = .deferred →
      NodeStep c s (.deferred i) i { s.nd i with pc := .gone } false
  | zombie {i : Nat} : (s.nd i).zombies > 0 →
      NodeStep c s (.zombie i) i { s.nd i with zombies := (s.nd i).zombies - 1 } false
  | signalRunning {i sig : Nat} {ovr : Bool} (sg : List Nat) : s.canceled → (c.node i).rep = false ∨ sig = 9 →
      ((s.nd i).pc ≠ .exec → sg = (s.nd i).sigs) → (s.nd i).status = .running →
      NodeStep c s (.signalNode i sig ovr) i { s.nd i with sigs := sg, status := .cancel } false
  | signal {i sig : Nat} {ovr : Bool} (sg : List Nat) : s.canceled → (c.node i).rep = false ∨ sig = 9 →
      ((s.nd i).pc ≠ .exec → sg = (s.nd i).sigs) → (s.nd i).status ≠ .running →
      NodeStep c s (.signalNode i sig ovr) i { s.nd i with sigs := sg } false

/-- the loop returns to its scan after a launch decision has been carried out -/
def Act.loopAfter : Act → LoopPC → LoopPC
  | .visitLaunch _ _, _ => .scanning
  | _, l => l

inductive Step (c : Cfg) (s : State) : Act → State → Prop
  | stay {i : Nat} : s.loop = .scanning → i < c.n → Step c s (.visitDecide i) s
  | decide {i : Nat} : s.loop = .scanning → i < c.n → (s.nd i).status = .none → s.canceled = false →
      (c.maxActive > 0 → runningCount c s < c.maxActive) → (∀ d ∈ (c.node i).deps, Licensed c s d) →
      Step c s (.visitDecide i) { s with loop := .launching i }
  | node {a : Act} {i : Nat} {y : NodeSt} {e : Bool} : NodeStep c s a i y e →
      Step c s a { (s.setNode i y) with lastErr := if e then true else s.lastErr, loop := a.loopAfter s.loop }
  | loopExit : s.loop = .scanning → isFinished c s ∨ s.canceled → Step c s .loopExit { s with loop := .waiting }
  | setCanceled : Step c s .setCanceled { s with canceled := true }
  | timeout : c.hasTimeout → Step c s .timeout { s with timedOut := true }
  | waitAll : s.loop = .waiting → workersDone c s →
      Step c s .waitAll
        { s with loop := .handlers (handlerPlan c (overall c s)), hplan := some (handlerPlan c (overall c s)),
                 atWait := some (overall c s), execsAtWait := totalExecs c s }
  | handlerRun {ok : Bool} {h : Handler} {rest : List Handler} : s.loop = .handlers (h :: rest) →
      Step c s (.handlerRun ok) { s with loop := .handlers rest, hlog := s.hlog ++ [h] }
  | finish : s.loop = .handlers [] → Step c s .finish { s with loop := .returned }

namespace Lim

/-- unfold `step` in `hs : step c s a = some s'` (for a concrete constructor `a`), split all branches,
    discard the disabled ones and substitute `s'` -/
macro "step_cases " hs:ident : tactic => `(tactic| (
  simp only [step] at $hs:ident
  repeat' split at $hs:ident
  all_goals (first | (cases $hs:ident; done) | skip)
  all_goals (first | (injection $hs:ident with $hs:ident; subst $hs:ident) | skip)))

end Lim

/-- every transition of `step` is one of `Step`: one line per branch, in the order of `step` -/
theorem step_sound {c : Cfg} {s s' : State} {a : Act} (hs : step c s a = some s') : Step c s a s' := by
  cases a with
  | visitDecide i =>
    simp only [step] at hs
    split at hs
    · next h0 =>
      split at hs
      · cases hs; exact .stay h0.1 h0.2
      · next hst =>
        have hst : (s.nd i).status = .none := by simpa using hst
        cases hlab : (isReady c s i).2 with
        | none =>
          simp only [hlab] at hs
          repeat' split at hs
          all_goals cases hs
          all_goals first
            | exact .stay h0.1 h0.2
            | exact .decide h0.1 h0.2 hst (by simp_all) (by intro hk; simp_all; try omega)
                (isReady_true c s i (by simp_all)).2
        | some l =>
          -- a label means `not ready`, so the branch that labels AND launches is dead
          have hrd : (isReady c s i).1 = false := by
            cases hrd : (isReady c s i).1
            · rfl
            · simp [(isReady_true c s i hrd).1] at hlab
          simp only [hlab, hrd] at hs
          cases hs
          exact .node (.label h0.1 h0.2 hst hlab)
    · cases hs
  | visitLaunch i preOk =>
    step_cases hs
    · exact .node (.preSkip ‹_› ‹_›)
    · exact .node (.launch ‹_› ‹_›)
  | loopExit =>
    step_cases hs
    exact .loopExit (‹_ ∧ _›).1 (‹_ ∧ _›).2
  | setupDone i ok =>
    step_cases hs
    · exact .node (.setupOk ‹_› ‹_›)
    · exact .node (.setupFail ‹_› ‹_›)
  | check i =>
    step_cases hs
    · exact .node (.checkStop ‹_› ‹_›)
    · exact .node (.checkGo ‹_› ‹_›)
  | execStart i =>
    step_cases hs
    · exact .node (.startDry ‹_› ‹_›)
    · exact .node (.start ‹_› ‹_›)
  | execEnd i ok =>
    step_cases hs <;> (try simp only [afterExec_setNode_err]) <;> (try simp only [afterExec_set])
    · exact .node (.endOk ‹_› ‹_›)
    · exact .node (.endLabelled ‹_› ‹_› ‹_›)
    · exact .node (.endTimeout ‹_› ‹_› ‹_› ‹_›)
    · exact .node (.endStopped ‹_› ‹_› ‹_› ‹_› ‹_›)
    · exact .node (.endRetry ‹_› ‹_› ‹_› ‹_› ‹_› ‹_›)
    · exact .node (.endFail ‹_› ‹_› ‹_› ‹_› ‹_› ‹_›)
  | postWrite i =>
    step_cases hs <;> simp only [afterExec_setNode_err]
    · exact .node (.writeErr ‹_›)
    · exact .node (.writeTimeout ‹_›)
  | retryWake i =>
    simp only [step, afterExec_set, setNode_setNode, setNode_nd, setNode_canceled, updN_same] at hs
    split at hs
    · next hp =>
      split at hs <;> cases hs
      · next h => exact .node (.wakeRepeat hp h)
      · next h => exact .node (.wake hp h)
    · cases hs
  | tail i =>
    simp only [step] at hs
    split at hs <;> cases hs
    split
    · exact .node (.tailSet ‹_› ‹_›)
    · exact .node (.tailKeep ‹_› ‹_›)
  | teardown i tdOk =>
    step_cases hs
    · exact .node (.teardownOk ‹_› ‹_›)
    · exact .node (.teardownFail ‹_› ‹_›)
  | deferred i =>
    step_cases hs
    exact .node (.deferred ‹_›)
  | zombie i =>
    step_cases hs
    exact .node (.zombie ‹_›)
  | setCanceled => cases hs; exact .setCanceled
  | signalNode i sig ovr =>
    step_cases hs
    all_goals first
      | exact .node (.signalRunning _ (‹_ ∧ _›).1 (‹_ ∧ _›).2 (by simp_all) (by assumption))
      | exact .node (.signal _ (‹_ ∧ _›).1 (‹_ ∧ _›).2 (by simp_all) (by assumption))
  | timeout =>
    step_cases hs
    exact .timeout ‹_›
  | waitAll =>
    step_cases hs
    exact .waitAll (‹_ ∧ _›).1 (‹_ ∧ _›).2
  | handlerRun ok =>
    step_cases hs
    exact .handlerRun ‹_›
  | finish =>
    step_cases hs
    exact .finish ‹_›

variable {c : Cfg} {s s' : State} {a : Act}

theorem Step.flags (h : Step c s a s') :
    (s'.canceled = false → s.canceled = false) ∧ (s'.timedOut = false → s.timedOut = false) := by
  cases h <;> simp

theorem step_lastErr_mono (hs : step c s a = some s') (h : s.lastErr = true) : s'.lastErr = true := by
  cases step_sound hs <;> simp [h]

theorem Act.loopAfter_cases (a : Act) (l : LoopPC) : a.loopAfter l = l ∨ a.loopAfter l = .scanning := by
  cases a <;> simp [Act.loopAfter]

theorem Act.loopAfter_launching {l : LoopPC} {j : Nat} (h : a.loopAfter l = .launching j) : l = .launching j := by
  rcases a.loopAfter_cases l with e | e <;> simp_all

theorem Act.loopAfter_doneO {l : LoopPC} (h : (a.loopAfter l).doneO = true) : l.doneO = true := by
  rcases a.loopAfter_cases l with e | e <;> simp_all [LoopPC.doneO]

theorem Act.loopAfter_inH {l : LoopPC} (h : (a.loopAfter l).inH = true) : a.loopAfter l = l ∧ l.inH = true := by
  rcases a.loopAfter_cases l with e | e <;> simp_all [LoopPC.inH]

theorem NodeStep.loopAfter {i : Nat} {y : NodeSt} {e : Bool} (hm : NodeStep c s a i y e) :
    a.loopAfter s.loop = s.loop ∨ (s.loop = .launching i ∧ a.loopAfter s.loop = .scanning) := by
  cases hm <;> first | exact Or.inl rfl | exact Or.inr ⟨‹_›, rfl⟩

theorem Step.nd (h : Step c s a s') (j : Nat) : s'.nd j = s.nd j ∨ ∃ e, NodeStep c s a j (s'.nd j) e := by
  cases h with
  | @node a i y e h =>
    by_cases hj : j = i
    · subst hj
      exact Or.inr ⟨e, by simpa using h⟩
    · exact Or.inl (by simp [hj])
  | _ => exact Or.inl rfl

theorem Step.loop_done (h : Step c s a s') (hd : s'.loop.doneO = true) :
    s.loop.doneO = true ∨ (s'.nd = s.nd ∧ (isFinished c s = true ∨ s.canceled = true)) := by
  cases h with
  | node _ => exact Or.inl (Act.loopAfter_doneO hd)
  | loopExit _ hf => exact Or.inr ⟨rfl, hf⟩
  | decide => simp [LoopPC.doneO] at hd
  | _ => first | exact Or.inl hd | (simp_all [LoopPC.doneO])

theorem ReachFrom.node_induction {s0 : State} {Q : NodeSt → Prop} (j : Nat) (hr : ReachFrom c s0 s) (h0 : Q (s0.nd j))
    (hstep : ∀ s a y e, ReachFrom c s0 s → NodeStep c s a j y e → Q (s.nd j) → Q y) : Q (s.nd j) := by
  induction hr with
  | init => exact h0
  | step a hr hs ih =>
    rcases (step_sound hs).nd j with he | ⟨e, hm⟩
    · rwa [he]
    · exact hstep _ _ _ _ hr hm ih

theorem Reach.reachFrom (h : Reach c s) : ReachFrom c (Sched.init c) s := by
  induction h with
  | init => exact .init
  | step a _ hs ih => exact .step a ih hs

/-! The same split for an arbitrary action, one goal per branch of every action. -/

/-- unfold one `step` into its enabled branches (`s'` is substituted) and normalise node updates -/
macro "explode_step " a:ident hs:ident : tactic =>
  `(tactic| (cases $a:ident <;> simp only [step, afterExec_set] at $hs:ident <;> (repeat' split at $hs:ident) <;>
      (try cases $hs:ident) <;> (try simp [State.setNode] at *)))

/-- case analysis on one transition: one goal per enabled branch of `step`, with `s'` substituted -/
macro "step_cases" a:ident hs:ident : tactic =>
  `(tactic| (cases $a:ident <;>
      simp only [step, afterExec_eq_ob, State.setNode, updN_same] at $hs:ident <;>
      (repeat' split at $hs:ident) <;> (try cases $hs:ident)))

end BdModel.Sched
