import BdModel.Sched.Defs
/-
  What the definitions of the fine system compute: node update, `afterExec`, `PC.active`, the list
  predicates as quantified statements, counting over the nodes, and `isReady`.
  Some of the `simp` lemmas and `aePc` carry the prefix `Lim` (the modules that use them by their short names open that
  namespace), and three equations stand under a second name as well (`updN_apply` / `_ob`, `setNode_loop`, `afterExec_eq_ob`):
  both spellings are in use.
-/
namespace BdModel.Sched

@[simp] theorem Lim.updN_apply (f : Nat → NodeSt) (i : Nat) (v : NodeSt) (j : Nat) :
    updN f i v j = if j = i then v else f j := rfl

@[simp] theorem Lim.setNode_nd (s : State) (i : Nat) (v : NodeSt) :
    (s.setNode i v).nd = updN s.nd i v := rfl
@[simp] theorem Lim.setNode_canceled (s : State) (i : Nat) (v : NodeSt) :
    (s.setNode i v).canceled = s.canceled := rfl
@[simp] theorem Lim.setNode_lastErr (s : State) (i : Nat) (v : NodeSt) :
    (s.setNode i v).lastErr = s.lastErr := rfl
@[simp] theorem Lim.setNode_timedOut (s : State) (i : Nat) (v : NodeSt) :
    (s.setNode i v).timedOut = s.timedOut := rfl
@[simp] theorem Lim.setNode_loop (s : State) (i : Nat) (v : NodeSt) :
    (s.setNode i v).loop = s.loop := rfl
@[simp] theorem setNode_hlog (s : State) (i : Nat) (v : NodeSt) : (s.setNode i v).hlog = s.hlog := rfl
@[simp] theorem setNode_hplan (s : State) (i : Nat) (v : NodeSt) : (s.setNode i v).hplan = s.hplan := rfl
@[simp] theorem setNode_atWait (s : State) (i : Nat) (v : NodeSt) : (s.setNode i v).atWait = s.atWait := rfl
@[simp] theorem setNode_execsAtWait (s : State) (i : Nat) (v : NodeSt) :
    (s.setNode i v).execsAtWait = s.execsAtWait := rfl

@[simp] theorem updN_apply (f : Nat → NodeSt) (i : Nat) (v : NodeSt) (j : Nat) :
    updN f i v j = if j = i then v else f j := rfl

theorem updN_apply_ob (f : Nat → NodeSt) (i : Nat) (v : NodeSt) (j : Nat) :
    updN f i v j = if j = i then v else f j := rfl

@[simp] theorem updN_same (f : Nat → NodeSt) (i : Nat) (v : NodeSt) : updN f i v i = v := by
  simp

theorem updN_ne (f : Nat → NodeSt) {i j : Nat} (v : NodeSt) (h : j ≠ i) : updN f i v j = f j := by
  simp [h]

theorem setNode_loop (s : State) (j : Nat) (v : NodeSt) : (s.setNode j v).loop = s.loop := rfl

theorem updN_updN (f : Nat → NodeSt) (i : Nat) (v w : NodeSt) : updN (updN f i v) i w = updN f i w := by
  funext j
  simp only [updN]
  split <;> rfl

theorem setNode_setNode (s : State) (i : Nat) (v w : NodeSt) : (s.setNode i v).setNode i w = s.setNode i w := by
  simp [State.setNode, updN_updN]

theorem updN_cases {Q : NodeSt → Prop} {f : Nat → NodeSt} {i j : Nat} {v : NodeSt}
    (hj : Q (f j)) (hv : j = i → Q v) : Q (updN f i v j) := by
  rw [updN_apply]
  split
  · exact hv ‹_›
  · exact hj

@[simp] theorem Lim.active_idle : PC.idle.active = false := rfl
@[simp] theorem Lim.active_setup : PC.setup.active = true := rfl
@[simp] theorem Lim.active_check : PC.check.active = true := rfl
@[simp] theorem Lim.active_starting : PC.starting.active = true := rfl
@[simp] theorem Lim.active_exec : PC.exec.active = true := rfl
@[simp] theorem Lim.active_wErr : PC.wErr.active = true := rfl
@[simp] theorem Lim.active_wTimeout : PC.wTimeout.active = true := rfl
@[simp] theorem Lim.active_retrySleep : PC.retrySleep.active = true := rfl
@[simp] theorem Lim.active_tail : PC.tail.active = false := rfl
@[simp] theorem Lim.active_td : PC.td.active = false := rfl
@[simp] theorem Lim.active_deferred : PC.deferred.active = false := rfl
@[simp] theorem Lim.active_gone : PC.gone.active = false := rfl

theorem PC.active_iff (p : PC) :
    p.active = true ↔ p = .setup ∨ p = .check ∨ p = .starting ∨ p = .exec ∨ p = .wErr ∨ p = .wTimeout ∨
      p = .retrySleep := by
  cases p <;> simp

theorem PC.active_false_iff (p : PC) :
    p.active = false ↔ (p = .idle ∨ p = .tail ∨ p = .td ∨ p = .deferred ∨ p = .gone) := by
  cases p <;> simp

/-! ### `afterExec` rewrites `doneCnt` and `pc` of node `i` -/

/-- the pc with which `afterExec` leaves node `i` -/
def Lim.aePc (c : Cfg) (cn : Bool) (i : Nat) (ok : Bool) : PC :=
  if (c.node i).rep && (ok || (c.node i).contFail) && !cn then .check
  else if !ok && c.doneChan then .deferred else .tail

open Lim

/-- the node state `afterExec` leaves behind; `cn` is the stop flag -/
@[simp] def after (c : Cfg) (cn : Bool) (i : Nat) (ok : Bool) (x : NodeSt) : NodeSt :=
  { x with doneCnt := if x.status != .cancel then x.doneCnt + 1 else x.doneCnt, pc := aePc c cn i ok }

theorem afterExec_set (c : Cfg) (s : State) (i : Nat) (ok : Bool) :
    afterExec c s i ok = s.setNode i (after c s.canceled i ok (s.nd i)) := by
  unfold afterExec after aePc
  by_cases h1 : ((s.nd i).status != .cancel) = true <;>
  by_cases h2 : ((c.node i).rep && (ok || (c.node i).contFail) && !s.canceled) = true <;>
  by_cases h3 : (!ok && c.doneChan) = true <;> simp [h1, h2, h3]

theorem afterExec_eq_ob (c : Cfg) (s : State) (i : Nat) (ok : Bool) :
    afterExec c s i ok =
      s.setNode i { (s.nd i) with
        doneCnt := if (s.nd i).status != .cancel then (s.nd i).doneCnt + 1 else (s.nd i).doneCnt,
        pc := aePc c s.canceled i ok } :=
  afterExec_set c s i ok

theorem afterExec_setNode_err (c : Cfg) (s : State) (i : Nat) (v : NodeSt) (ok : Bool) :
    afterExec c { s.setNode i v with lastErr := true } i ok =
      { s.setNode i (after c s.canceled i ok v) with lastErr := true } := by
  simp [afterExec_set, State.setNode, updN_updN]

@[simp] theorem Lim.afterExec_lastErr (c : Cfg) (s : State) (i : Nat) (ok : Bool) :
    (afterExec c s i ok).lastErr = s.lastErr := by rw [afterExec_set]; rfl

theorem Lim.aePc_ne_idle (c : Cfg) (s : Bool) (i : Nat) (ok : Bool) :
    (aePc c s i ok = .idle) = False := by
  unfold aePc; split
  · simp
  · split <;> simp

theorem Lim.aePc_cases (c : Cfg) (s : Bool) (i : Nat) (ok : Bool) :
    aePc c s i ok = .check ∨ aePc c s i ok = .deferred ∨ aePc c s i ok = .tail := by
  unfold aePc; split
  · simp
  · split <;> simp

/-- without a repeat policy the worker leaves its loop after every attempt -/
theorem aePc_noRep {c : Cfg} (hn : NoRep c) (cn : Bool) (i : Nat) (ok : Bool) :
    aePc c cn i ok = if !ok && c.doneChan then .deferred else .tail := by
  simp [aePc, hn i]

theorem aePc_noRep_cases {c : Cfg} (hn : NoRep c) (cn : Bool) (i : Nat) (ok : Bool) :
    aePc c cn i ok = .deferred ∨ aePc c cn i ok = .tail := by
  rw [aePc_noRep hn]; split <;> simp

/-! ### the list predicates of the model as quantified statements -/

theorem isFinished_iff (c : Cfg) (s : State) :
    isFinished c s = true ↔ ∀ j, j < c.n → (s.nd j).status ≠ .running ∧ (s.nd j).status ≠ .none := by
  simp [isFinished]

theorem workersDone_iff (c : Cfg) (s : State) :
    workersDone c s = true ↔
      ∀ j, j < c.n → ((s.nd j).pc = .idle ∨ (s.nd j).pc = .gone) ∧ (s.nd j).zombies = 0 := by
  simp [workersDone]

theorem anyRunning_eq_false_iff (c : Cfg) (s : State) :
    anyRunning c s = false ↔ ∀ j, j < c.n → (s.nd j).status ≠ .running := by
  simp [anyRunning]

theorem totalExecs_congr (c : Cfg) (s s' : State)
    (h : ∀ j, j < c.n → (s'.nd j).execs = (s.nd j).execs) : totalExecs c s' = totalExecs c s := by
  unfold totalExecs
  congr 1
  apply List.map_congr_left
  intro j hj
  exact h j (List.mem_range.mp hj)

/-- the loop has left its scanning phase -/
@[grind] def LoopPC.doneO : LoopPC → Bool
  | .waiting | .handlers _ | .returned => true
  | _ => false

/-- `wg.Wait()` has returned -/
@[grind] def LoopPC.inH : LoopPC → Bool
  | .handlers _ | .returned => true
  | _ => false

theorem LoopDone_iff (s : State) : LoopDone s ↔ s.loop.doneO = true := by
  unfold LoopDone
  cases s.loop <;> simp [LoopPC.doneO]

theorem inH_iff (s : State) : ((∃ l, s.loop = .handlers l) ∨ s.loop = .returned) ↔ s.loop.inH = true := by
  cases s.loop <;> simp [LoopPC.inH]

def cnt (q : NodeSt → Bool) (n : Nat) (f : Nat → NodeSt) : Nat :=
  (List.range n).countP (fun j => q (f j))

theorem runningCount_eq (c : Cfg) (s : State) :
    runningCount c s = cnt (fun x => x.status == .running) c.n s.nd := rfl
theorem activeWorkers_eq (c : Cfg) (s : State) :
    activeWorkers c s = cnt (fun x => x.pc.active) c.n s.nd := rfl
theorem executing_eq (c : Cfg) (s : State) :
    executing c s = cnt (fun x => x.pc == .exec || x.pc == .retrySleep) c.n s.nd := rfl

theorem cnt_mono {q q' : NodeSt → Bool} {n : Nat} {f g : Nat → NodeSt}
    (h : ∀ j, j < n → q (g j) = true → q' (f j) = true) : cnt q n g ≤ cnt q' n f := by
  unfold cnt
  apply List.countP_mono_left
  intro j hj
  exact h j (List.mem_range.mp hj)

theorem cnt_zero {q : NodeSt → Bool} {n : Nat} {f : Nat → NodeSt} (h : ∀ j, q (f j) = false) :
    cnt q n f = 0 := by
  unfold cnt
  simp [h]

/-- a count rises by at most one if `q` can become true at node `i` only -/
theorem cnt_frame_succ {q : NodeSt → Bool} {n : Nat} {f g : Nat → NodeSt} (i : Nat)
    (h : ∀ j, j ≠ i → q (g j) = true → q (f j) = true) : cnt q n g ≤ cnt q n f + 1 := by
  unfold cnt
  -- generalised for the induction: the extra 1 is there once the range has passed `i`
  suffices H : ∀ m, (List.range m).countP (fun j => q (g j)) ≤
      (List.range m).countP (fun j => q (f j)) + (if i < m then 1 else 0) by
    have := H n; split at this <;> omega
  intro m
  induction m with
  | zero => simp
  | succ m ih =>
    simp only [List.range_succ, List.countP_append, List.countP_singleton]
    by_cases hm : m = i
    · subst hm
      simp only [Nat.lt_irrefl, if_false, Nat.lt_succ_self, if_true] at ih ⊢
      split <;> split <;> omega
    · have := h m hm
      have h1 : (i < m + 1) ↔ (i < m) := by omega
      simp only [h1]
      split <;> split <;> first | omega | simp_all

theorem readyEffect_go (c : Cfg) (s : State) (d : Nat) :
    readyEffect (s.nd d).status (c.node d).contFail (c.node d).contSkip = .go ↔ Licensed c s d := by
  unfold readyEffect Licensed
  cases (s.nd d).status <;> cases (c.node d).contFail <;> cases (c.node d).contSkip <;> simp

theorem not_blocker_of_licensed {c : Cfg} {s : State} {d : Nat} (hL : Licensed c s d) : ¬ Blocker c s d := by
  intro hB
  unfold Licensed at hL; unfold Blocker at hB
  rcases hL with h | ⟨h, h'⟩ | ⟨h, h'⟩ <;> rcases hB with ⟨g, g'⟩ | g | ⟨g, g'⟩ <;> simp_all

theorem readyEffect_block (st : NStatus) (cf cs : Bool) (lab : NStatus) :
    readyEffect st cf cs = .block lab ↔
      ((lab = .cancel ∧ ((st = .error ∧ cf = false) ∨ st = .cancel)) ∨
       (lab = .skipped ∧ st = .skipped ∧ cs = false)) := by
  cases st <;> cases cf <;> cases cs <;> cases lab <;> simp [readyEffect]

theorem readyEffect_wait (st : NStatus) (cf cs : Bool) :
    readyEffect st cf cs = .wait ↔ (st = .none ∨ st = .running) := by
  cases st <;> cases cf <;> cases cs <;> simp [readyEffect]

theorem readyFold_true (c : Cfg) (s : State) : ∀ (ds : List Nat) (r : Bool) (l : Option NStatus),
    (readyFold c s ds (r, l)).1 = true →
    r = true ∧ (readyFold c s ds (r, l)).2 = l ∧
      ∀ d ∈ ds, readyEffect (s.nd d).status (c.node d).contFail (c.node d).contSkip = .go
  | [], r, l, h => ⟨h, rfl, by simp⟩
  | d :: ds, r, l, h => by
    cases he : readyEffect (s.nd d).status (c.node d).contFail (c.node d).contSkip with
    | go =>
      rw [show readyFold c s (d :: ds) (r, l) = readyFold c s ds (r, l) by simp [readyFold, he]] at h ⊢
      have := readyFold_true c s ds r l h
      exact ⟨this.1, this.2.1, by simpa [he] using this.2.2⟩
    | wait =>
      rw [show readyFold c s (d :: ds) (r, l) = readyFold c s ds (false, l) by simp [readyFold, he]] at h
      exact absurd (readyFold_true c s ds _ _ h).1 (by simp)
    | block lab =>
      rw [show readyFold c s (d :: ds) (r, l) = readyFold c s ds (false, some lab) by simp [readyFold, he]] at h
      exact absurd (readyFold_true c s ds _ _ h).1 (by simp)

theorem readyFold_label (c : Cfg) (s : State) (lab : NStatus) : ∀ (ds : List Nat) (r : Bool) (l : Option NStatus),
    (readyFold c s ds (r, l)).2 = some lab →
    l = some lab ∨ ∃ d ∈ ds, readyEffect (s.nd d).status (c.node d).contFail (c.node d).contSkip = .block lab
  | [], r, l, h => Or.inl h
  | d :: ds, r, l, h => by
    have tl : ∀ r' l', (readyFold c s ds (r', l')).2 = some lab → (l' = some lab → l = some lab ∨
        readyEffect (s.nd d).status (c.node d).contFail (c.node d).contSkip = .block lab) →
        l = some lab ∨ ∃ x ∈ d :: ds, readyEffect (s.nd x).status (c.node x).contFail (c.node x).contSkip = .block lab := by
      intro r' l' h' hl
      rcases readyFold_label c s lab ds r' l' h' with h1 | ⟨x, hx, h1⟩
      · exact (hl h1).imp_right fun h2 => ⟨d, List.mem_cons_self, h2⟩
      · exact Or.inr ⟨x, List.mem_cons_of_mem _ hx, h1⟩
    cases he : readyEffect (s.nd d).status (c.node d).contFail (c.node d).contSkip with
    | go => exact tl r l (by simpa [readyFold, he] using h) Or.inl
    | wait => exact tl false l (by simpa [readyFold, he] using h) Or.inl
    | block lb => exact tl false (some lb) (by simpa [readyFold, he] using h) fun h1 => Or.inr (by rw [he, Option.some.inj h1])

theorem isReady_true (c : Cfg) (s : State) (i : Nat) (h : (isReady c s i).1 = true) :
    (isReady c s i).2 = none ∧ ∀ d ∈ (c.node i).deps, Licensed c s d := by
  have := readyFold_true c s (c.node i).deps true none h
  exact ⟨this.2.1, fun d hd => (readyEffect_go c s d).1 (this.2.2 d hd)⟩

theorem isReady_label (c : Cfg) (s : State) (i : Nat) (lab : NStatus) (h : (isReady c s i).2 = some lab) :
    ∃ d ∈ (c.node i).deps,
      ((lab = .cancel ∧ (((s.nd d).status = .error ∧ (c.node d).contFail = false) ∨ (s.nd d).status = .cancel)) ∨
       (lab = .skipped ∧ (s.nd d).status = .skipped ∧ (c.node d).contSkip = false)) := by
  rcases readyFold_label c s lab (c.node i).deps true none h with h | ⟨d, hd, h⟩
  · cases h
  · exact ⟨d, hd, (readyEffect_block ..).1 h⟩

theorem isReady_label_cases (c : Cfg) (s : State) (i : Nat) (lab : NStatus) (h : (isReady c s i).2 = some lab) :
    lab = .cancel ∨ lab = .skipped := by
  obtain ⟨d, _, hd⟩ := isReady_label c s i lab h
  grind

theorem isReady_none_of_licensed (c : Cfg) (s : State) (i : Nat)
    (h : ∀ d ∈ (c.node i).deps, Licensed c s d) : (isReady c s i).2 = none := by
  cases hl : (isReady c s i).2 with
  | none => rfl
  | some lab =>
    obtain ⟨d, hd, hb⟩ := isReady_label c s i lab hl
    have := h d hd
    simp only [Licensed] at this
    grind

end BdModel.Sched
