import BdModel.Proofs.Sched.Order
/-
  C04 (outcome, handlers) and C05 (stop) for every run `Schedule` can make, fresh or retry: what is
  true once `wg.Wait()` has returned, where `lastErr` and the label `cancel` come from, the outcome of
  an unstopped run, and the effect of a stop on command starts.
-/
namespace BdModel.Sched
open Lim

variable {c : Cfg} {s : State} {a : Act}

/-- once `wg.Wait()` has returned a node without a worker moves only by a signal, which gives it no worker, starts no
    command and records no error -/
theorem NodeStep.of_gone {i : Nat} {y : NodeSt} {e : Bool} (hm : NodeStep c s a i y e) (hH : s.loop.inH = true)
    (hp : (s.nd i).pc = .idle ∨ (s.nd i).pc = .gone) (hz : (s.nd i).zombies = 0) :
    e = false ∧ y.execs = (s.nd i).execs ∧ y.pc = (s.nd i).pc ∧ y.zombies = 0 := by
  cases hm with
  | label hl | preSkip hl | launch hl => simp [hl, LoopPC.inH] at hH
  | _ => simp_all

theorem workers_gone_from {s0 : State} (h0 : Start s0) (s : State) (hr : ReachFrom c s0 s) (hH : s.loop.inH = true) :
    (∀ j, j < c.n → ((s.nd j).pc = .idle ∨ (s.nd j).pc = .gone) ∧ (s.nd j).zombies = 0) ∧
    totalExecs c s = s.execsAtWait := by
  induction hr with
  | init => simp [h0.loop, LoopPC.inH] at hH
  | @step s s' a hr hs ih =>
    cases step_sound hs with
    | @node a i y e hm =>
      obtain ⟨-, h2⟩ := Act.loopAfter_inH hH
      obtain ⟨hg, ht⟩ := ih h2
      have key : ∀ j, j < c.n → (((updN s.nd i y j).pc = .idle ∨ (updN s.nd i y j).pc = .gone) ∧
          (updN s.nd i y j).zombies = 0) ∧ (updN s.nd i y j).execs = (s.nd j).execs := fun j hj => by
        have := hg j hj
        by_cases hji : j = i
        · subst hji
          rw [updN_same]
          obtain ⟨-, he, hp, hz⟩ := hm.of_gone h2 this.1 this.2
          exact ⟨⟨hp ▸ this.1, hz⟩, he⟩
        · rw [updN_ne _ _ hji]
          exact ⟨this, rfl⟩
      exact ⟨fun j hj => (key j hj).1, (totalExecs_congr c s _ fun j hj => (key j hj).2).trans ht⟩
    | waitAll _ hw => exact ⟨(workersDone_iff c s).1 hw, rfl⟩
    | decide => simp [LoopPC.inH] at hH
    | loopExit => simp [LoopPC.inH] at hH
    | handlerRun hl' => exact ih (by simp [hl', LoopPC.inH])
    | finish hl' => exact ih (by simp [hl', LoopPC.inH])
    | _ => exact ih hH

theorem atWait_inH_from {s0 : State} (h0 : Start s0) (s : State) (hr : ReachFrom c s0 s) :
    s.atWait ≠ none → s.loop.inH = true := by
  induction hr with
  | init => simp [h0.atWait]
  | @step s s' a hr hs ih =>
    cases step_sound hs with
    | @node a i y e hm =>
      rcases hm.loopAfter with h | ⟨h1, h2⟩
      · simpa [h] using ih
      · simp_all [LoopPC.inH]
    | _ => simp_all [LoopPC.inH]

theorem hlog_plan_from (c : Cfg) {s0 : State} (h0 : Start s0) (s : State) (hr : ReachFrom c s0 s) :
    (s.hplan = none → s.hlog = [] ∧ s.atWait = none ∧ ¬ (∃ l, s.loop = .handlers l) ∧ s.loop ≠ .returned) ∧
    (∀ p, s.hplan = some p →
        (∃ o, s.atWait = some o ∧ p = handlerPlan c o) ∧
        ((∃ rest, s.loop = .handlers rest ∧ s.hlog ++ rest = p) ∨ (s.loop = .returned ∧ s.hlog = p))) := by
  induction hr with
  | init => simp [h0.hplan, h0.hlog, h0.atWait, h0.loop]
  | @step s s' a hr hs ih =>
    cases step_sound hs with
    | @node a i y e hm =>
      rcases hm.loopAfter with h | ⟨h1, h2⟩
      · simpa [h] using ih
      · cases hp : s.hplan <;> simp_all
    -- `waitAll` sets plan, outcome and loop together; `handlerRun` moves the head of the rest to the end of the log
    | _ => cases hp : s.hplan <;> grind

theorem no_exec_after_wait_from (c : Cfg) {s0 : State} (h0 : Start s0) (s : State) (hr : ReachFrom c s0 s)
    (hl : (∃ l, s.loop = .handlers l) ∨ s.loop = .returned) :
    totalExecs c s = s.execsAtWait ∧ ∀ i, i < c.n → (s.nd i).pc.active = false := by
  obtain ⟨hg, ht⟩ := workers_gone_from h0 s hr ((inH_iff s).1 hl)
  exact ⟨ht, fun i hi => by rcases (hg i hi).1 with h | h <;> simp [h]⟩

/-- a recorded error is never lost -/
theorem error_implies_lastErr_from (c : Cfg) {s0 : State} (h0 : Start s0) (s : State) (hr : ReachFrom c s0 s)
    (i : Nat) (h : (s.nd i).status = .error) : s.lastErr = true := by
  induction hr with
  | init =>
    have := h0.node_status i
    simp [h] at this
  | @step s s' a hr hs ih =>
    cases step_sound hs with
    | @node a j y e hm =>
      by_cases hij : i = j
      · subst hij
        have := isReady_label_cases c s i
        cases hm <;> simp_all <;> grind
      · cases e <;> simp_all
    | _ => exact ih h

theorem error_implies_lastErr (c : Cfg) (s : State) (hr : Reach c s) (i : Nat)
    (h : (s.nd i).status = .error) : s.lastErr = true :=
  error_implies_lastErr_from c (start_init c) s hr.reachFrom i h

/-- in a run that is neither stopped nor timed out a `cancel` label is written only after an error
    has been recorded: the loop writes it for a dependency that has failed or carries the label itself -/
theorem cancel_implies_lastErr_from (hn : NoRep c) {s0 : State} (h0 : Start s0) (s : State) (hr : ReachFrom c s0 s)
    (hc : s.canceled = false) (ht : s.timedOut = false) (j : Nat) (hj : (s.nd j).status = .cancel) :
    s.lastErr = true := by
  induction hr generalizing j with
  | init =>
    have := h0.node_status j
    simp [hj] at this
  | @step s s' a hr hs ih =>
    have hst := step_sound hs
    refine step_lastErr_mono hs ?_
    rcases (hst.label (hr.inv hn h0) j).2.2.1 hc ht hj with h | ⟨-, h⟩
    · exact ih (hst.flags.1 hc) (hst.flags.2 ht) j h
    · obtain ⟨d, -, ⟨-, ⟨he, -⟩ | hd⟩ | ⟨hl, -⟩⟩ := isReady_label c s j _ h
      · exact error_implies_lastErr_from c h0 s hr d he
      · exact ih (hst.flags.1 hc) (hst.flags.2 ht) d hd
      · cases hl

theorem lastErr_cause_from (hn : NoRep c) {s0 : State} (h0 : Start s0) (s : State) (hr : ReachFrom c s0 s)
    (hl : s.lastErr = true) (hc : s.canceled = false) (ht : s.timedOut = false) :
    ∃ j, j < c.n ∧ (s.nd j).status = .error := by
  induction hr with
  | init => simp [h0.lastErr] at hl
  | @step s s' a hr hs ih =>
    have hst := step_sound hs
    have hI := hr.inv hn h0
    by_cases h0' : s.lastErr = true
    · obtain ⟨j, hj, he⟩ := ih h0' (hst.flags.1 hc) (hst.flags.2 ht)
      exact ⟨j, hj, (hst.stable hI j).1 he⟩
    · cases hst with
      | @node a i y e hm =>
        -- the move records an error; under a stop or a timeout it could also write `cancel`
        cases e
        · simp_all
        · have hT := (hI i).wTimeout
          refine ⟨i, ?_, by cases hm <;> simp_all⟩
          -- outside the graph only a signal arrives (`NodeStep.lt_n`), and a signal records no error
          rcases hm.lt_n hI with h | ⟨sig, ovr, rfl⟩
          · exact h
          · cases hm
      | _ => simp_all

theorem atWait_eq_from (hn : NoRep c) {s0 : State} (h0 : Start s0) (s : State) (hr : ReachFrom c s0 s)
    (o : SStatus) (ho : s.atWait = some o) (hc : s.canceled = false) (ht : s.timedOut = false) :
    o = if s.lastErr then .error else .success := by
  induction hr with
  | init => simp [h0.atWait] at ho
  | @step s s' a hr hs ih =>
    cases step_sound hs with
    | @node a i y e hm =>
      -- the workers are gone and the run is not stopped: nothing records an error any more
      have hH := atWait_inH_from h0 s hr (by simp_all)
      have hg : ((s.nd i).pc = .idle ∨ (s.nd i).pc = .gone) ∧ (s.nd i).zombies = 0 := by
        by_cases hi : i < c.n
        · exact (workers_gone_from h0 s hr hH).1 i hi
        · have := (hr.inv hn h0 i).outside (Nat.le_of_not_lt hi)
          exact ⟨Or.inl this.1, this.2⟩
      have := hm.of_gone hH hg.1 hg.2
      simp_all
    | waitAll hw =>
      have hW := inv_final_from c hn h0 s hr hc (by simp [hw, LoopPC.doneO])
      have hrun := (anyRunning_eq_false_iff c s).2 fun j hj => (hW j hj).2
      simp only [Option.some.injEq] at ho
      simp_all [overall]
    | setCanceled => simp at hc
    | timeout => simp at ht
    | _ => exact ih ho hc ht

/-- outcome read after `wg.Wait()` for a run that was not stopped and did not time out; the statuses
    quantified over are those of ALL steps, kept (recorded) and executed in this run -/
theorem outcome_unstopped_from (c : Cfg) (hn : NoRep c) {s0 : State} (h0 : Start s0)
    (s : State) (hr : ReachFrom c s0 s) (hc : s.canceled = false) (ht : s.timedOut = false) (o : SStatus)
    (ho : s.atWait = some o) :
    (o = .success ∨ o = .error) ∧
    (o = .success ↔ ∀ i, i < c.n → (s.nd i).status = .success ∨ (s.nd i).status = .skipped) ∧
    (o = .error ↔ ∃ i, i < c.n ∧ (s.nd i).status = .error) := by
  have hO := atWait_eq_from hn h0 s hr o ho hc ht
  have hH : s.loop.inH = true := atWait_inH_from h0 s hr (by simp [ho])
  have hD : s.loop.doneO = true := by
    revert hH; cases s.loop <;> simp [LoopPC.inH, LoopPC.doneO]
  have hW := inv_final_from c hn h0 s hr hc hD
  have hLE : s.lastErr = true ↔ ∃ i, i < c.n ∧ (s.nd i).status = .error :=
    ⟨fun h => lastErr_cause_from hn h0 s hr h hc ht, fun ⟨i, _, h⟩ => error_implies_lastErr_from c h0 s hr i h⟩
  have hAll : (¬ ∃ i, i < c.n ∧ (s.nd i).status = .error) ↔
      ∀ i, i < c.n → (s.nd i).status = .success ∨ (s.nd i).status = .skipped := by
    constructor
    · intro hne i hi
      have h1 := hW i hi
      have h2 : (s.nd i).status ≠ .error := fun h => hne ⟨i, hi, h⟩
      have h3 : (s.nd i).status ≠ .cancel := fun h =>
        hne (hLE.1 (cancel_implies_lastErr_from hn h0 s hr hc ht i h))
      revert h1 h2 h3
      cases (s.nd i).status <;> simp
    · rintro hall ⟨i, hi, he⟩
      rcases hall i hi with h | h <;> simp [he] at h
  have hoe : o = .error ↔ s.lastErr = true := by rw [hO]; cases s.lastErr <;> simp
  have hos : o = .success ↔ ¬ s.lastErr = true := by rw [hO]; cases s.lastErr <;> simp
  exact ⟨by rw [hO]; cases s.lastErr <;> simp, hos.trans ((not_congr hLE).trans hAll), hoe.trans hLE⟩

theorem no_new_start_after_cancel (c : Cfg) (s s' : State) (hc : s.canceled = true)
    (h : ReachFrom c s s') (i : Nat) :
    (s'.nd i).execs ≤ (s.nd i).execs + (if (s.nd i).pc = .starting then 1 else 0) := by
  -- strengthened for the induction: a worker at `starting` later on was there already and has not
  -- executed since (`check` leads to `tail` once the stop is accepted)
  have key : s'.canceled = true ∧
      (s'.nd i).execs ≤ (s.nd i).execs + (if (s.nd i).pc = .starting then 1 else 0) ∧
      ((s'.nd i).pc = .starting → (s.nd i).pc = .starting ∧ (s'.nd i).execs = (s.nd i).execs) := by
    induction h with
    | init => refine ⟨hc, ?_, fun h => ⟨h, rfl⟩⟩; split <;> omega
    | @step t t' a _ hs ih =>
      have hst := step_sound hs
      refine ⟨by have := hst.flags.1; grind, ?_⟩
      rcases hst.nd i with he | ⟨e, hm⟩
      · rw [he]; exact ih.2
      · have hae := aePc_cases c t.canceled i
        generalize t'.nd i = y at hm ⊢
        cases hm <;> simp_all <;> grind
  exact key.2.1

theorem exec_has_cmd_from (c : Cfg) (hd : c.dry = false) {s0 : State} (h0 : Start s0) (s : State)
    (hr : ReachFrom c s0 s) (i : Nat) (h : (s.nd i).pc = .exec) : (s.nd i).cmd = true := by
  revert h
  refine hr.node_induction (Q := fun x => x.pc = .exec → x.cmd = true) i (by simp [(h0.node_idle i).1])
    fun s a y e _ hm ih => ?_
  cases hm <;> simp_all [aePc] <;> grind

theorem signal_delivered (c : Cfg) (hd : c.dry = false) {s0 : State} (h0 : Start s0) (s s' : State)
    (hr : ReachFrom c s0 s) (i sig : Nat) (ovr : Bool)
    (h : step c s (.signalNode i sig ovr) = some s') (hp : (s.nd i).pc = .exec) :
    (s'.nd i).sigs = (s.nd i).sigs ++ [match ovr, (c.node i).sigOnStop with | true, some g => g | _, _ => sig] ∧
      (s'.nd i).pc = .exec := by
  have hcmd := exec_has_cmd_from c hd h0 s hr i hp
  simp only [step] at h
  split at h
  · simp only [hcmd, hp, and_self, if_true] at h
    split at h <;> (injection h with h; subst h; simp) <;>
      (cases ovr <;> cases (c.node i).sigOnStop <;> rfl)
  · cases h

theorem kill_enabled (c : Cfg) (hd : c.dry = false) {s0 : State} (h0 : Start s0) (s : State)
    (hr : ReachFrom c s0 s) (hc : s.canceled = true) (i : Nat) :
    ∃ s', step c s (.signalNode i 9 false) = some s' ∧
      ((s.nd i).pc = .exec → (9 : Nat) ∈ (s'.nd i).sigs) := by
  cases hs : step c s (.signalNode i 9 false) with
  | none =>
    simp only [step, hc, true_and, or_true, if_true] at hs
    grind
  | some s' =>
    refine ⟨s', rfl, fun hp => ?_⟩
    rw [(signal_delivered c hd h0 s s' hr i 9 false hs hp).1]
    simp

/-- non-dry: `ran` and the label `success` both imply that a command has been started -/
def InvS (s : State) : Prop :=
  ∀ j, ((s.nd j).ran = true → (s.nd j).execs ≥ 1) ∧ ((s.nd j).status = .success → (s.nd j).execs ≥ 1)

/-- `InvS` for ONE node -/
def InvSn (s : State) (j : Nat) : Prop :=
  ((s.nd j).ran = true → (s.nd j).execs ≥ 1) ∧ ((s.nd j).status = .success → (s.nd j).execs ≥ 1)

theorem invS_iff (s : State) : InvS s ↔ ∀ j, InvSn s j := Iff.rfl

/-- `InvSn` for the nodes that are FRESH at the start. Kept-node exception: a step kept by `setupRetry`
    with the record `finished` starts the run with `status = success ∧ execs = 0` and stays so
    (C10_kept) — for it the second clause is false, so there is no `InvS s` from a general start
    state. (The first clause, `ran → execs ≥ 1`, holds for kept nodes too: see `ran_executed_from`.) -/
theorem invS_from (hd : c.dry = false) {s0 : State} (s : State) (hr : ReachFrom c s0 s)
    (j : Nat) (hj : s0.nd j = {}) : InvSn s j := by
  refine hr.node_induction (Q := fun x => (x.ran = true → x.execs ≥ 1) ∧ (x.status = .success → x.execs ≥ 1))
    j (by simp [hj]) fun s a y e _ hm ih => ?_
  have := isReady_label_cases c s j
  cases hm <;> simp_all <;> grind

/-- the `ran` clause of `InvSn` holds for every node of every start state, kept or not -/
theorem ran_executed_from (hd : c.dry = false) {s0 : State} (h0 : Start s0) (s : State)
    (hr : ReachFrom c s0 s) (j : Nat) : (s.nd j).ran = true → (s.nd j).execs ≥ 1 := by
  refine hr.node_induction (Q := fun x => x.ran = true → x.execs ≥ 1) j
    (by have := h0.node_idle j; simp_all) fun s a y e _ hm ih => ?_
  cases hm <;> simp_all <;> omega

theorem success_executed_from (c : Cfg) (hd : c.dry = false) {s0 : State} (s : State)
    (hr : ReachFrom c s0 s) (i : Nat) (hi : s0.nd i = {})
    (h : (s.nd i).status = .success) : (s.nd i).execs ≥ 1 :=
  (invS_from hd s hr i hi).2 h

theorem no_running_when_gone_from (c : Cfg) {s0 : State} (h0 : Start s0) (s : State)
    (hr : ReachFrom c s0 s) (i : Nat)
    (hp : (s.nd i).pc = .idle ∨ (s.nd i).pc = .gone ∨ (s.nd i).pc = .deferred ∨ (s.nd i).pc = .td) :
    (s.nd i).status ≠ .running := by
  intro h
  have := hr.busy h0 i h
  grind

end BdModel.Sched

#print axioms BdModel.Sched.hlog_plan_from
#print axioms BdModel.Sched.no_exec_after_wait_from
#print axioms BdModel.Sched.error_implies_lastErr_from
#print axioms BdModel.Sched.error_implies_lastErr
#print axioms BdModel.Sched.outcome_unstopped_from
#print axioms BdModel.Sched.no_new_start_after_cancel
#print axioms BdModel.Sched.exec_has_cmd_from
#print axioms BdModel.Sched.success_executed_from
#print axioms BdModel.Sched.ran_executed_from
#print axioms BdModel.Sched.no_running_when_gone_from
