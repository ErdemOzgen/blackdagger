import BdModel.Sched.Retry
import BdModel.Proofs.Kahn
import BdModel.Proofs.RetryBfs
import BdModel.Proofs.RetryKeep
/- C10, what `setupRetry` resets: the walk's invariant at its end state is the closure of the reset set; the nodes of `initRetry`;
   a step recorded finished / skipped is left alone by a run from the recorded statuses -/
namespace BdModel.Retry
open BdModel.Cycle BdModel.Sched

def Reaches (es : List (Nat × Nat)) (u v : Nat) : Prop := Relation.ReflTransGen (Rel es) u v

/-- what `setup` has established of the edge list before `setupRetry` walks it (C14) -/
def GoodGraph (n : Nat) (es : List (Nat × Nat)) : Prop :=
  (∀ e ∈ es, e.1 < n ∧ e.2 < n) ∧ ¬ ∃ v, Relation.TransGen (Rel es) v v

theorem setupRetry_walk (n : Nat) (es : List (Nat × Nat)) (st : Nat → NStatus) (R : NStatus → Bool)
    (hg : GoodGraph n es) : ∃ m, setupRetry n es st R = (m, []) ∧ Walk n es st R [] (m, []) :=
  loop_walk hg.1 hg.2 (n + 1) 0 {} (sources n es) (Nat.lt_succ_self n) (fun _ hw => .source hw)
    (Walk.init hg.1 hg.2)

theorem setupRetry_drained (n : Nat) (es : List (Nat × Nat)) (st : Nat → NStatus) (R : NStatus → Bool)
    (hg : GoodGraph n es) : (setupRetry n es st R).2 = [] := by
  obtain ⟨m, hm, _⟩ := setupRetry_walk n es st R hg
  rw [hm]

/-- cleared ⇔ marked: every marked step is actually reset (and nothing else is) -/
theorem cleared_iff_retry (n : Nat) (es : List (Nat × Nat)) (st : Nat → NStatus) (R : NStatus → Bool)
    (hg : GoodGraph n es) (v : Nat) :
    (setupRetry n es st R).1.cleared v = (setupRetry n es st R).1.retry v := by
  obtain ⟨m, hm, hw⟩ := setupRetry_walk n es st R hg
  rw [hm, Bool.eq_iff_iff]
  exact ⟨hw.sub v, fun h => (hw.pending v h).resolve_right (by simp)⟩

/-- marked for retry ⇔ recorded in the reset set, or downstream of such a step -/
theorem retry_iff_closure (n : Nat) (es : List (Nat × Nat)) (st : Nat → NStatus) (R : NStatus → Bool)
    (hg : GoodGraph n es) (v : Nat) :
    (setupRetry n es st R).1.retry v = true ↔ ∃ u, u < n ∧ R (st u) = true ∧ Reaches es u v := by
  obtain ⟨m, hm, hw⟩ := setupRetry_walk n es st R hg
  rw [hm]
  refine ⟨hw.sound v, ?_⟩
  rintro ⟨u, hun, hu, huv⟩
  -- along the path: a step of the reset set is cleared; a marked step is cleared, so its successors are marked
  induction huv with
  | refl => exact hw.sub u ((hw.reset u hun hu).resolve_right (by simp))
  | tail _ hbc ih => exact hw.succ _ _ hbc ((hw.pending _ ih).resolve_right (by simp))

section
variable {n : Nat} {es : List (Nat × Nat)} {st : Nat → NStatus} {rc dc : Nat → Nat} {R : NStatus → Bool} {v : Nat}

theorem initRetry_nd_cleared (hv : v < n) (hc : (setupRetry n es st R).1.cleared v = true) :
    (initRetry n es st rc dc R).nd v = {} := by
  simp [initRetry, hv, hc]

theorem initRetry_nd_kept (hv : v < n) (hc : (setupRetry n es st R).1.cleared v = false) :
    (initRetry n es st rc dc R).nd v = { status := st v, retry := rc v, doneCnt := dc v } := by
  simp [initRetry, hv, hc]

theorem initRetry_nd_outside (hv : n ≤ v) : (initRetry n es st rc dc R).nd v = {} := by
  simp [initRetry, Nat.not_lt.2 hv]

end

/-- in the retry run, a step that was kept (recorded finished / skipped and not reset) is never executed
    and keeps its recorded state -/
theorem kept_never_executes (c : Cfg) (st : Nat → NStatus) (s : State) (h : ReachFrom c (initFrom st) s) (i : Nat)
    (hk : st i = .success ∨ st i = .skipped) :
    (s.nd i).execs = 0 ∧ (s.nd i).status = st i ∧ (s.nd i).pc = .idle := by
  obtain ⟨hexecs, hstatus, hpc, _⟩ := keep_inv_gen c st i hk _ ⟨rfl, rfl, rfl, by simp [initFrom]⟩ s h
  exact ⟨hexecs, hstatus, hpc⟩

end BdModel.Retry

#print axioms BdModel.Retry.setupRetry_drained
#print axioms BdModel.Retry.retry_iff_closure
#print axioms BdModel.Retry.cleared_iff_retry
#print axioms BdModel.Retry.kept_never_executes
