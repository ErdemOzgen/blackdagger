import BdModel.Hist.Names
/- What `filepath.Match` (`gmatch`) does with an escaped literal and with `*`. -/
namespace BdModel.Hist.Names

theorem isMeta_false {c : Char} (h : isMeta c = false) : c ≠ '\\' ∧ c ≠ '*' ∧ c ≠ '?' ∧ c ≠ '[' := by
  simp only [isMeta, Bool.or_eq_false_iff, beq_eq_false_iff_ne, ne_eq] at h
  exact ⟨h.1.1.1, h.1.1.2, h.1.2, h.2⟩

theorem gmatch_star (p s : List Char) : gmatch ('*' :: p) s = gstar (gmatch p) s := by
  conv => lhs; unfold gmatch
  simp

theorem gmatch_esc (c : Char) (p : List Char) (d : Char) (s' : List Char) :
    gmatch ('\\' :: c :: p) (d :: s') = (c == d && gmatch p s') := by
  conv => lhs; unfold gmatch
  have h1 : ('\\' : Char) ≠ '*' := by decide
  have h2 : ('\\' : Char) ≠ '?' := by decide
  have h3 : ('\\' : Char) ≠ '[' := by decide
  simp [h1, h2, h3]

theorem gmatch_esc_nil (c : Char) (p : List Char) : gmatch ('\\' :: c :: p) [] = false := by
  conv => lhs; unfold gmatch
  have h1 : ('\\' : Char) ≠ '*' := by decide
  simp [h1]

theorem gmatch_lit (x : Char) (p : List Char) (d : Char) (s' : List Char) (h : isMeta x = false) :
    gmatch (x :: p) (d :: s') = (x == d && gmatch p s') := by
  obtain ⟨n1, n2, n3, n4⟩ := isMeta_false h
  conv => lhs; unfold gmatch
  simp [n1, n2, n3, n4]

theorem gmatch_lit_nil (x : Char) (p : List Char) (h : isMeta x = false) : gmatch (x :: p) [] = false := by
  have hstar : x ≠ '*' := (isMeta_false h).2.1
  conv => lhs; unfold gmatch
  simp [hstar]

theorem gmatch_escape_cons (c : Char) (cs r s : List Char) :
    gmatch (escapeGlob (c :: cs) ++ r) s =
      match s with
      | [] => false
      | d :: s' => c == d && gmatch (escapeGlob cs ++ r) s' := by
  by_cases hm : isMeta c = true
  · rw [show escapeGlob (c :: cs) ++ r = '\\' :: c :: (escapeGlob cs ++ r) by simp [escapeGlob, hm]]
    cases s with
    | nil => exact gmatch_esc_nil c _
    | cons d s' => exact gmatch_esc c _ d s'
  · have hm' : isMeta c = false := by simpa using hm
    rw [show escapeGlob (c :: cs) ++ r = c :: (escapeGlob cs ++ r) by simp [escapeGlob, hm']]
    cases s with
    | nil => exact gmatch_lit_nil c _ hm'
    | cons d s' => exact gmatch_lit c _ d s' hm'

theorem gmatch_escape_append (q r : List Char) : ∀ s : List Char,
    gmatch (escapeGlob q ++ r) s = true ↔ ∃ s', s = q ++ s' ∧ gmatch r s' = true := by
  induction q with
  | nil => intro s; simp [escapeGlob]
  | cons c cs ih =>
    intro s
    rw [gmatch_escape_cons]
    cases s with
    | nil => simp
    | cons d s' =>
      simp only [Bool.and_eq_true, beq_iff_eq, ih s', List.cons_append, List.cons.injEq]
      constructor
      · rintro ⟨rfl, s'', rfl, hg⟩; exact ⟨s'', ⟨rfl, rfl⟩, hg⟩
      · rintro ⟨s'', ⟨rfl, rfl⟩, hg⟩; exact ⟨rfl, s'', rfl, hg⟩

theorem gstar_iff (rest : List Char → Bool) : ∀ s : List Char,
    gstar rest s = true ↔ ∃ mid t, s = mid ++ t ∧ sep ∉ mid ∧ rest t = true := by
  intro s
  induction s with
  | nil =>
    simp only [gstar]
    constructor
    · intro h; exact ⟨[], [], rfl, by simp, h⟩
    · rintro ⟨mid, t, he, _, hr⟩
      have : mid = [] ∧ t = [] := by simpa using he.symm
      rw [this.2] at hr; exact hr
  | cons c s ih =>
    simp only [gstar, Bool.or_eq_true, Bool.and_eq_true, bne_iff_ne, ne_eq, ih]
    constructor
    · rintro (h | ⟨hc, mid, t, rfl, hm, hr⟩)
      · exact ⟨[], c :: s, rfl, by simp, h⟩
      · exact ⟨c :: mid, t, rfl, by simp [hm, Ne.symm hc], hr⟩
    · rintro ⟨mid, t, he, hm, hr⟩
      cases mid with
      | nil => left; simp only [List.nil_append] at he; rw [he]; exact hr
      | cons m mid' =>
        simp only [List.cons_append, List.cons.injEq] at he
        right
        refine ⟨?_, mid', t, he.2, ?_, hr⟩
        · rw [he.1]; intro e; exact hm (by simp [e])
        · intro h; exact hm (List.mem_cons_of_mem _ h)

theorem escapeGlob_id (q : List Char) (h : ∀ c ∈ q, isMeta c = false) : escapeGlob q = q := by
  induction q with
  | nil => rfl
  | cons c cs ih =>
    simp [escapeGlob, h c List.mem_cons_self, ih (fun d hd => h d (List.mem_cons_of_mem _ hd))]

theorem gmatch_escape (q s : List Char) : gmatch (escapeGlob q) s = true ↔ s = q := by
  have := gmatch_escape_append q [] s
  simp only [List.append_nil] at this
  rw [this]
  constructor
  · rintro ⟨s', rfl, hg⟩
    have : s' = [] := by unfold gmatch at hg; simpa using hg
    simp [this]
  · rintro rfl; exact ⟨[], by simp, by unfold gmatch; rfl⟩

theorem ext_plain : ∀ c ∈ extDat, isMeta c = false := by decide

theorem gmatch_extDat (s : List Char) : gmatch extDat s = true ↔ s = extDat := by
  have := gmatch_escape extDat s
  rwa [escapeGlob_id _ ext_plain] at this

theorem escapeGlob_append : ∀ a b : List Char, escapeGlob (a ++ b) = escapeGlob a ++ escapeGlob b
  | [], _ => rfl
  | c :: a, b => by
    simp only [List.cons_append, escapeGlob]
    split <;> simp [escapeGlob_append a b]

theorem sep_plain : sep ≠ '.' ∧ sep ∉ twinSfx ∧ sep ∉ extDat := by decide

end BdModel.Hist.Names
