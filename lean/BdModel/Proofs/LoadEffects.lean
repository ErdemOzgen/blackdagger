import BdModel.Load.Effects
/-
  C19: what `closure` contains — an invariant of the enabled calls holds of all of it (`closure_inv`),
  and what a certificate of enabled calls leads to is in it (`mem_closure_of_ranked`). From the first, exhaustiveness (a
  field no builder step reads has no effect) and confinement: a set of functions that is closed backwards under the
  enabled calls, holds the enabled effect sites and not `build` keeps every field from reaching an effect. From the
  second, reachability from a certificate (`mem_reachFns_of_ranked`).
-/
namespace BdModel.Load.Effects

theorem addNew_nil_nil : addNew [] [] = [] := rfl

theorem mem_addNew_iff {x : String} {l acc : List String} : x ∈ addNew acc l ↔ x ∈ acc ∨ x ∈ l := by
  induction l generalizing acc with
  | nil => simp [addNew]
  | cons y ys ih =>
    unfold addNew
    split
    · rename_i hc
      have hy : y ∈ acc := by simpa using hc
      rw [ih, List.mem_cons]
      exact ⟨fun h => h.imp_right Or.inr, fun h => h.elim Or.inl fun h => h.elim (fun h => Or.inl (h ▸ hy)) Or.inr⟩
    · simp [ih, or_assoc]

theorem closure_inv (T : Tables) (o : EOpts) (P : String → Prop)
    (hP : ∀ r ∈ T.edges, edgeOk o r = true → P (col r 0) → P (col r 1)) :
    ∀ n fs, (∀ x ∈ fs, P x) → ∀ x ∈ closure T o n fs, P x
  | 0, _, h => h
  | n + 1, fs, h => by
    simp only [closure]
    split
    · exact h
    · refine closure_inv T o P hP n _ fun x hx => ?_
      rcases mem_addNew_iff.mp hx with hx | hx
      · exact h x hx
      · obtain ⟨r, hr, rfl⟩ := List.mem_map.mp hx
        have := List.mem_filter.mp hr
        simp only [Bool.and_eq_true, List.contains_iff_mem] at this
        exact hP r this.1 this.2.1 (h _ this.2.2)

theorem addNew_eq_append : ∀ (l acc : List String), ∃ e, addNew acc l = acc ++ e
  | [], acc => ⟨[], by simp [addNew]⟩
  | x :: xs, acc => by
    unfold addNew
    split
    · exact addNew_eq_append xs acc
    · obtain ⟨e, he⟩ := addNew_eq_append xs (acc ++ [x])
      exact ⟨x :: e, by simp [he]⟩

/-- the fix-point test of `closure` only saves work: a round that adds nothing changes nothing -/
theorem closure_succ (T : Tables) (o : EOpts) (n : Nat) (fs : List String) :
    closure T o (n + 1) fs = closure T o n (stepFns T o fs) := by
  simp only [closure]
  split
  · rename_i hfix
    have : stepFns T o fs = fs := by
      obtain ⟨e, he⟩ := addNew_eq_append _ fs
      rw [stepFns, he] at hfix ⊢
      simp [List.eq_nil_of_length_eq_zero (l := e) (by simpa using hfix)]
    cases n <;> simp [closure, this]
  · rfl

theorem subset_closure (T : Tables) (o : EOpts) : ∀ n fs, ∀ x ∈ fs, x ∈ closure T o n fs
  | 0, _, _, h => h
  | n + 1, fs, x, h => closure_succ T o n fs ▸ subset_closure T o n _ x (mem_addNew_iff.mpr (.inl h))

/-- every function of the list is `t` or has an enabled call to a later one -/
def ranked (T : Tables) (o : EOpts) (t : String) : List String → Bool
  | [] => true
  | a :: l => (a == t || T.edges.any (fun r => col r 0 == a && l.contains (col r 1) && edgeOk o r)) && ranked T o t l

theorem mem_closure_of_ranked (T : Tables) (o : EOpts) (t : String) : ∀ l, ranked T o t l = true →
    ∀ n fs, l.length ≤ n + 1 → ∀ a ∈ l, a ∈ fs → t ∈ closure T o n fs
  | a :: l, h, n, fs, hn, x, hx, hfs => by
    simp only [ranked, Bool.and_eq_true, Bool.or_eq_true, beq_iff_eq] at h
    simp only [List.length_cons, Nat.add_le_add_iff_right] at hn
    rcases List.mem_cons.mp hx with rfl | hx
    · rcases h.1 with rfl | he
      · exact subset_closure T o n fs _ hfs
      · obtain ⟨r, hr, hrc⟩ := List.any_eq_true.mp he
        simp only [Bool.and_eq_true, beq_iff_eq, List.contains_iff_mem] at hrc
        obtain ⟨⟨hcaller, hcallee⟩, hok⟩ := hrc
        -- a round is left: the callee is in `l`, so `l` is not empty, and `hn : l.length ≤ n`
        obtain ⟨m, rfl⟩ : ∃ m, n = m + 1 := ⟨n - 1, by have := List.length_pos_of_mem hcallee; omega⟩
        rw [closure_succ]
        refine mem_closure_of_ranked T o t l h.2 m _ hn _ hcallee (mem_addNew_iff.mpr (.inr (List.mem_map.mpr ?_)))
        exact ⟨r, List.mem_filter.mpr ⟨hr, by simp [hok, hcaller, hfs]⟩, rfl⟩
    · exact mem_closure_of_ranked T o t l h.2 n fs (Nat.le_succ_of_le hn) x hx hfs

theorem mem_reachFns_of_ranked (T : Tables) (o : EOpts) (t : String) (l : List String) (h : ranked T o t l = true)
    (hl : l.length ≤ T.edges.length + 1) : ∀ a ∈ l, t ∈ reachFns T o [a] :=
  fun a ha => mem_closure_of_ranked T o t l h _ [a] hl a ha List.mem_cons_self

theorem reachFns_congr {T T' : Tables} (h : T'.edges = T.edges) (o : EOpts) (fs : List String) :
    reachFns T' o fs = reachFns T o fs := by
  unfold reachFns
  rw [h]
  generalize T.edges.length = n
  induction n generalizing fs with
  | zero => rfl
  | succ n ih => simp only [closure, stepFns, h, ih]; rfl

theorem reach_eq_reachO {T : Tables} {e : String} {o : EOpts} (ho : optsOf T e = some o)
    (hb : "build" ∈ reachFns T o [e]) (f : String) : reach T e f = reachO T o f := by
  simp [reach, ho, hb]

theorem stepFns_nil (T : Tables) (o : EOpts) : stepFns T o [] = [] :=
  List.eq_nil_iff_forall_not_mem.mpr fun x => by simp [stepFns, mem_addNew_iff]

theorem closure_nil (T : Tables) (o : EOpts) (n : Nat) : closure T o n [] = [] :=
  List.eq_nil_iff_forall_not_mem.mpr (closure_inv T o (fun _ => False) (fun _ _ _ h => h) n [] (by simp))

theorem builders_nil_of_not_mentioned (T : Tables) (o : EOpts) (f : String) (h : f ∉ mentioned T) :
    builders T o f = [] := by
  have : T.fields.filter (fun r => col r 1 == f && col r 0 != "build") = [] := by
    refine List.filter_eq_nil_iff.mpr fun r hr => ?_
    have : col r 1 ≠ f := fun heq => h (mem_addNew_iff.mpr (.inr (heq ▸ List.mem_map_of_mem hr)))
    simp [this]
  simp [builders, this]

/-- **exhaustiveness**: `reach` only ever yields effects for fields listed in the table -/
theorem reach_exhaustive (T : Tables) (e f : String) (h : f ∉ mentioned T) : reach T e f = [] := by
  unfold reach
  split
  · rename_i o _
    split
    · simp [reachO, builders_nil_of_not_mentioned T o f h, reachFns, closure_nil]
    · rfl
  · rfl

/-- `bad` is closed backwards under the enabled calls: a callee in it has its caller in it -/
abbrev BackClosed (T : Tables) (o : EOpts) (bad : List String) : Prop :=
  ∀ r ∈ T.edges, (edgeOk o r && bad.contains (col r 1)) = true → bad.contains (col r 0) = true

theorem BackClosed.step {T : Tables} {o : EOpts} {bad : List String} (h : BackClosed T o bad) {r : List String}
    (hr : r ∈ T.edges) (hok : edgeOk o r = true) (h0 : bad.contains (col r 0) = false) : bad.contains (col r 1) = false :=
  Bool.eq_false_iff.mpr fun h1 => by rw [h r hr (by rw [hok, h1]; rfl)] at h0; cases h0

theorem BackClosed.closure {T : Tables} {o : EOpts} {bad : List String} (h : BackClosed T o bad) :
    ∀ n fs, (∀ x ∈ fs, bad.contains x = false) → ∀ x ∈ closure T o n fs, bad.contains x = false :=
  closure_inv T o (fun x => bad.contains x = false) fun _ hr hok h0 => h.step hr hok h0

/-- **confinement.** `bad` holds every function with an effect site enabled under `o` and, with a function, its callers
    over enabled edges; `build` is not in it. Then no builder step is (each is called from `build`), nothing reachable
    from one is, and no field reaches an effect. -/
theorem reachO_eq_nil (T : Tables) (o : EOpts) (bad : List String) (hedge : BackClosed T o bad)
    (hsite : ∀ r ∈ T.sites, (isEffectRow r && holds (col r 4) o.noEval && holds (col r 5) o.metadataOnly) = true →
      bad.contains (col r 0) = true)
    (hbuild : bad.contains "build" = false) (f : String) : reachO T o f = [] := by
  have hfns : ∀ x ∈ reachFns T o (builders T o f), bad.contains x = false := by
    refine hedge.closure _ _ fun b hb => ?_
    obtain ⟨e, he, hc⟩ := List.any_eq_true.mp (List.mem_filter.mp hb).2
    simp only [Bool.and_eq_true, beq_iff_eq] at hc
    obtain ⟨⟨hfrom, hto⟩, hok⟩ := hc
    exact hto ▸ hedge.step he hok (hfrom ▸ hbuild)
  simp only [reachO, List.map_eq_nil_iff, List.filter_eq_nil_iff, Bool.and_eq_true, List.contains_iff_mem]
  intro r hr hc
  obtain ⟨⟨⟨hrow, hmem⟩, h4⟩, h5⟩ := hc
  have := hfns _ hmem
  rw [hsite r hr (by simp [hrow, h4, h5])] at this
  cases this

/-! ### tables that differ from the given one in one row

  `unguardSite` / `unguardEdge` drop the `noEval` requirement of one effect site / call edge: that is how a guard weakened in
  the code arrives in the extracted table, and `C19_guards_needed` shows that each such table `leaks`. `addSite T callSite`
  is the table of seeded mutant C19-4 (`C19_call_steps`). Rows are `[func, callee, idx, kind, needNoEval, needMetadataOnly]` (sites) and `[caller, callee, needNoEval,
  needMetadataOnly]` (edges), as in the header of Load/Effects.lean; a guard column other than "T" / "F" is no constraint. -/

/-- site `i` without its `needNoEval` requirement (column 4) -/
def unguardSite (T : Tables) (i : Nat) : Tables :=
  { T with sites := T.sites.set i ((T.sites.getD i []).set 4 "-") }

/-- edge `i` without its `needNoEval` requirement (column 2) -/
def unguardEdge (T : Tables) (i : Nat) : Tables :=
  { T with edges := T.edges.set i ((T.edges.getD i []).set 2 "-") }

/-- some non-evaluating entry point reaches an effect through some field of `mentioned T` -/
def leaks (T : Tables) : Bool :=
  nonEvaluatingEntries.any (fun e => (mentioned T).any (fun f => !(reach T e f).isEmpty))

theorem leaks_eq_false (T : Tables) (h : ∀ e ∈ nonEvaluatingEntries, ∀ f, reach T e f = []) : leaks T = false := by
  simp only [leaks, List.any_eq_false]
  intro e he
  simp [h e he]

theorem leaks_of_mem {T : Tables} {e f : String} {x : Effect} (he : e ∈ nonEvaluatingEntries) (hf : f ∈ mentioned T)
    (hx : x ∈ reach T e f) : leaks T = true :=
  List.any_eq_true.mpr ⟨e, he, List.any_eq_true.mpr ⟨f, hf, by cases h : reach T e f <;> simp_all⟩⟩

/-- the guard on the command substitution of parameter values (site of the seeded mutant C19-3): without it listing
    (`LoadMetadata`) executes a back-tick value of `params` -/
theorem parseParamValue_guard_needed :
    ∀ i ∈ List.range canon.sites.length, col (canon.sites.getD i []) 0 = "parseParamValue" → col (canon.sites.getD i []) 3 = "exec" →
      (⟨"parseParamValue", "exec.Command", "0"⟩ : Effect) ∈ reach (unguardSite canon i) "LoadMetadata" "Params" := by
  decide +kernel

def addSite (T : Tables) (row : List String) : Tables := { T with sites := T.sites ++ [row] }

/-- the added row changes no entry, call edge or field row, so `optsOf`, `reachFns` and `builders` are what they were -/
theorem mem_reach_addSite {T : Tables} {e f fn callee idx : String} {o : EOpts} (ho : optsOf T e = some o)
    (hb : "build" ∈ reachFns T o [e]) (hfn : (reachFns T o (builders T o f)).contains fn = true) :
    (⟨fn, callee, idx⟩ : Effect) ∈ reach (addSite T [fn, callee, idx, "exec", "-", "-"]) e f := by
  have hr := reachFns_congr (T := T) (T' := addSite T [fn, callee, idx, "exec", "-", "-"]) rfl o
  rw [reach_eq_reachO (T := addSite T _) ho (hr _ ▸ hb)]
  refine List.mem_map.mpr ⟨[fn, callee, idx, "exec", "-", "-"], List.mem_filter.mpr ⟨by simp [addSite], ?_⟩, rfl⟩
  have : builders (addSite T [fn, callee, idx, "exec", "-", "-"]) o f = builders T o f := rfl
  simp only [hr, this, Bool.and_eq_true]
  exact ⟨⟨⟨rfl, hfn⟩, rfl⟩, rfl⟩

/-- the exec site seeded mutant C19-4 puts into `parseFuncCall`, unguarded -/
def callSite : List String := ["parseFuncCall", "util.SplitCommandWithParse", "0", "exec", "-", "-"]

/-- `parseFuncCall` is on the call path of the builder steps that read `Steps`, `HandlerOn` and `Functions` under the
    validating / displaying entry points; with `mem_reach_addSite` this is the second half of `C19_call_steps` -/
theorem parseFuncCall_on_call_path :
    ∀ e ∈ ["LoadYAML", "LoadWithoutEval"], ∀ f ∈ ["Steps", "HandlerOn", "Functions"],
      (match optsOf canon e with
       | some o => (reachFns canon o (builders canon o f)).contains "parseFuncCall"
       | none => false) = true := by
  decide +kernel

end BdModel.Load.Effects
