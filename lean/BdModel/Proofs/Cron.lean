import BdModel.Cron.Daemon
/-
  What C09 rests on: `Next` is the least firing minute (one induction on the search), the one civil-calendar fact the
  horizon needs, the invoke test, what an entry issues, and that no file content panics the loader. `runTickPinned`, the
  loop as it was before /repo 922dee6, is treated here because membership in `runTick` is reduced to it in
  Proofs/CronDedupe (`mem_runTick_iff_pinned`); the restriction to one DAG at the end is used for `runTick` there
  (`runTick_filter_dag`) and stated for the old loop as well.
-/
namespace BdModel.Cron

theorem fires_eq (s : Spec) (m : Nat) : fires s m = (dayOk s (m / 1440) && timeOk s (m % 1440)) := rfl

theorem fires_false_of_day (s : Spec) (m : Nat) (h : dayOk s (m / 1440) = false) : fires s m = false := by
  simp [fires_eq, h]

/-- `o` is the least firing minute in `[m, lim)`, or `none` and there is none -/
def Least (s : Spec) (lim m : Nat) : Option Nat → Prop
  | some r => m ≤ r ∧ r < lim ∧ fires s r = true ∧ ∀ k, m ≤ k → k < r → fires s k = false
  | none => ∀ k, m ≤ k → k < lim → fires s k = false

theorem Least.extend {s : Spec} {lim m m' : Nat} {o : Option Nat} (h : Least s lim m' o) (hm : m ≤ m')
    (hskip : ∀ k, m ≤ k → k < m' → fires s k = false) : Least s lim m o := by
  cases o with
  | none =>
    intro k h1 h2
    by_cases hk : k < m'
    · exact hskip k h1 hk
    · exact h k (by omega) h2
  | some r =>
    obtain ⟨a, b, c, d⟩ := h
    refine ⟨by omega, b, c, fun k h1 h2 => ?_⟩
    by_cases hk : k < m'
    · exact hskip k h1 hk
    · exact d k (by omega) h2

theorem Least.unique {s : Spec} {lim m : Nat} : ∀ {o o' : Option Nat}, Least s lim m o → Least s lim m o' → o = o'
  | none, none, _, _ => rfl
  | none, some r, h, ⟨a, b, c, _⟩ => by rw [h r a b] at c; cases c
  | some r, none, ⟨a, b, c, _⟩, h => by rw [h r a b] at c; cases c
  | some r, some r', ⟨a, _, c, d⟩, ⟨a', _, c', d'⟩ => by
    have h1 : ¬ r < r' := fun h => by rw [d' r a h] at c; cases c
    have h2 : ¬ r' < r := fun h => by rw [d r' a' h] at c'; cases c'
    have : r = r' := by omega
    rw [this]

/-- the fuel bound is what `next` supplies -/
theorem search_least (s : Spec) (lim : Nat) : ∀ (fuel m : Nat), lim - m ≤ fuel → Least s lim m (search s lim fuel m) := by
  intro fuel
  induction fuel with
  | zero => intro m hfu k h1 h2; omega
  | succ n ih =>
    intro m hfu
    rw [search]
    by_cases hl : lim ≤ m
    · rw [if_pos hl]; intro k h1 h2; omega
    · rw [if_neg hl]
      by_cases hf : fires s m = true
      · rw [if_pos hf]; exact ⟨Nat.le_refl _, by omega, hf, fun k h1 h2 => by omega⟩
      · rw [if_neg hf]
        have hf' : fires s m = false := by simpa using hf
        by_cases hd : dayOk s (m / 1440) = true
        · rw [if_pos hd]
          refine (ih (m + 1) (by omega)).extend (by omega) (fun k h1 h2 => ?_)
          have : k = m := by omega
          rw [this]; exact hf'
        · rw [if_neg hd]
          have hd' : dayOk s (m / 1440) = false := by simpa using hd
          refine (ih ((m / 1440 + 1) * 1440) (by omega)).extend (by omega) (fun k h1 h2 => ?_)
          apply fires_false_of_day
          have : k / 1440 = m / 1440 := by omega
          rw [this]; exact hd'

theorem next_eq_iff (s : Spec) (u : Nat) (o : Option Nat) : next s u = o ↔ Least s (horizon u) (u / 60 + 1) o :=
  ⟨fun h => h ▸ search_least s _ _ _ (Nat.le_refl _), (search_least s _ _ _ (Nat.le_refl _)).unique⟩

theorem after_iff (u k : Nat) : u / 60 + 1 ≤ k ↔ u < 60 * k := by omega

theorem next_eq_some_iff (s : Spec) (u r : Nat) : next s u = some r ↔
    (u < 60 * r ∧ r < horizon u ∧ fires s r = true ∧ ∀ k, u < 60 * k → k < r → fires s k = false) := by
  rw [next_eq_iff]; simp only [Least, after_iff]

theorem next_eq_none_iff (s : Spec) (u : Nat) :
    next s u = none ↔ ∀ k, u < 60 * k → k < horizon u → fires s k = false := by
  rw [next_eq_iff]; simp only [Least, after_iff]

/-! ## the horizon lies beyond the minute asked about (civil-calendar fact) -/

theorem le_ite_succ (c : Prop) [Decidable c] (n : Nat) : n ≤ if c then n + 1 else n := by
  split <;> omega

/-- Hinnant's year of the 400-year era, bounded crudely from below. 465 = 100 + 1 + 364: the dividend is at least
    `doe - doe / 1460 - doe / 146096 ≥ doe - 100 - 1`, and dividing by 365 and multiplying back loses at most 364. -/
theorem yoe_ge (doe : Nat) (h : doe < 146097) :
    doe ≤ 365 * ((doe - doe / 1460 + doe / 36524 - doe / 146096) / 365) + 465 := by
  omega

theorem civilOfDay_year_ge (d : Nat) :
    ∃ yoe, (d + 306) % 146097 ≤ 365 * yoe + 465 ∧ yoe + (d + 306) / 146097 * 400 ≤ (civilOfDay d).year := by
  refine ⟨_, yoe_ge _ (Nat.mod_lt _ (by decide)), ?_⟩
  unfold civilOfDay
  exact le_ite_succ _ _

/-- month and day of `civilOfDay` depend on the day only through a day of the (March-based) year -/
theorem civilOfDay_month_day (d : Nat) : ∃ doy,
    (civilOfDay d).month = (if (5 * doy + 2) / 153 < 10 then (5 * doy + 2) / 153 + 3 else (5 * doy + 2) / 153 - 9) ∧
    (civilOfDay d).day = doy - (153 * ((5 * doy + 2) / 153) + 2) / 5 + 1 :=
  ⟨_, rfl, rfl⟩

/-- there is no 31 February (`≤ 30`, not 29, because the day of the year is left unconstrained) -/
theorem civilOfDay_feb (d : Nat) (h : (civilOfDay d).month = 2) : (civilOfDay d).day ≤ 30 := by
  obtain ⟨doy, hm, hd⟩ := civilOfDay_month_day d
  rw [hm] at h
  rw [hd]
  split at h <;> omega

theorem dayOfCivil_jan1 (y : Nat) :
    dayOfCivil y 1 1 = (y - 1) / 400 * 146097 + ((y - 1) % 400 * 365 + (y - 1) % 400 / 4 - (y - 1) % 400 / 100) := by
  unfold dayOfCivil
  have h12 : (1 : Nat) ≤ 2 := by decide
  have h12' : ¬ (1 : Nat) > 2 := by decide
  simp only [h12, h12', if_true, if_false]
  omega

/-- The horizon has five years to spare, so a year that is off by 465 days is good enough and the leap rule is not
    needed. 1 January of `y + 6` is counted in the March-based year `y + 5` (`dayOfCivil_jan1`); either that year lies in
    a later era than `z`, or in the same one, and then `365 * 5 > 465`. -/
theorem jan1_gt (z y yoe : Nat) (hy : yoe + z / 146097 * 400 ≤ y) (h : z % 146097 ≤ 365 * yoe + 465) :
    z < dayOfCivil (y + 6) 1 1 + 306 := by
  rw [dayOfCivil_jan1]
  omega

/-- All the horizon needs of the calendar. The exact `jan1 (year d) ≤ d < jan1 (year d + 1)` is not proved: it would
    take the correctness of Hinnant's year extraction, not a bound on it. -/
theorem day_lt_jan1_add6 (d : Nat) : d < dayOfCivil ((civilOfDay d).year + 6) 1 1 := by
  obtain ⟨yoe, h1, h2⟩ := civilOfDay_year_ge d
  have := jan1_gt (d + 306) _ yoe h2 h1
  omega

theorem minute_lt_horizon (m : Nat) : m < horizon (60 * m - 1) := by
  unfold horizon minuteOfYearStart yearOfSec
  have h : (60 * m - 1 + 1) / 86400 = m / 1440 := by omega
  rw [h]
  have := day_lt_jan1_add6 (m / 1440)
  generalize dayOfCivil ((civilOfDay (m / 1440)).year + 6) 1 1 = D at this ⊢
  omega

/- `rw [invoked]` / `rw [nextTime]`, never `unfold` or `simp only [..]`: those leave a definitional cast, and to check it
   the kernel unfolds the `match` first and evaluates `next s u` (the whole search) as far as it can. -/

theorem invoked_iff (s : Spec) (t : Nat) : invoked s t = true ↔ ∃ r, next s (t - 1) = some r ∧ 60 * r ≤ t := by
  rw [invoked]
  cases next s (t - 1) with
  | none => simp
  | some r => simp [Nat.not_lt]

theorem nextTime_some (s : Spec) (u r : Nat) (h : next s u = some r) : nextTime s u = 60 * r := by
  rw [nextTime, h]

/-- every due entry has `Next` = the tick (so the stable sort by `Next` keeps `Read`'s order among them) -/
theorem invoked_nextTime_eq (s : Spec) (t : Nat) (h : invoked s t = true) : nextTime s (t - 1) = t := by
  obtain ⟨r, hn, hle⟩ := (invoked_iff s t).mp h
  obtain ⟨a, _, _, _⟩ := (next_eq_some_iff s _ r).mp hn
  rw [nextTime_some s _ r hn]
  omega

/-- no horizon hypothesis: `minute_lt_horizon` discharges it -/
theorem invoked_iff_fires (s : Spec) (m : Nat) (hm : 0 < m) :
    invoked s (60 * m) = true ↔ fires s m = true := by
  rw [invoked_iff]
  constructor
  · rintro ⟨r, hn, hle⟩
    obtain ⟨a, b, c, d⟩ := (next_eq_some_iff s _ r).mp hn
    have : r = m := by omega
    rw [← this]; exact c
  · intro hf
    exact ⟨m, (next_eq_some_iff s _ m).mpr ⟨by omega, minute_lt_horizon m, hf, fun k h1 h2 => by omega⟩, Nat.le_refl _⟩

theorem entryAct_eq (st : Nat → Status) (t : Nat) (e : Entry) :
    entryAct st t e = if invoked e.spec t then invoke e t (st e.dag) else none := by
  rw [entryAct]
  split
  · rename_i h; rw [invoked_nextTime_eq _ _ h]
  · rfl

theorem truncMin_mul (m : Nat) : truncMin (60 * m) = 60 * m := by simp [truncMin]

theorem truncMin_mod (t : Nat) : truncMin t % 60 = 0 := by unfold truncMin; omega

theorem nextTick_minute (t : Nat) (ht : t % 60 = 0) : nextTick t = t + 60 := by
  unfold nextTick truncMin; omega

theorem loopTicks_fst (t : Nat) (ht : t % 60 = 0) (nows : List Nat) :
    (loopTicks t nows).map (·.1) = (List.range nows.length).map (fun k => t + 60 * k) := by
  induction nows generalizing t with
  | nil => rfl
  | cons n rest ih =>
    simp only [loopTicks, List.map_cons, List.length_cons, List.range_succ_eq_map, nextTick_minute t ht,
      ih (t + 60) (by omega), List.map_map, Nat.mul_zero, Nat.add_zero, List.cons.injEq, true_and]
    apply List.map_congr_left
    intro k _
    simp only [Function.comp]
    omega

/-! ## the loop without de-duplication (`runTickPinned`): `runTick` issues the same calls as a set (Proofs/CronDedupe) -/

theorem runTickPinned_nil (susp : Nat → Bool) (st : Nat → Status) (t : Nat) : runTickPinned [] susp st t = [] := rfl

theorem readEntries_cons (x : Dag) (rest : List Dag) (susp : Nat → Bool) :
    readEntries (x :: rest) susp = (if susp x.id then [] else entriesOf x) ++ readEntries rest susp := by
  unfold readEntries
  cases h : susp x.id <;> simp [h]

theorem runTickPinned_cons (d : Dag) (rest : List Dag) (susp : Nat → Bool) (st : Nat → Status) (t : Nat) :
    runTickPinned (d :: rest) susp st t =
      (if susp d.id then [] else (entriesOf d).filterMap (entryAct st t)) ++ runTickPinned rest susp st t := by
  unfold runTickPinned
  rw [readEntries_cons, List.filterMap_append]
  split <;> rfl

theorem mem_runTickPinned (dags : List Dag) (susp : Nat → Bool) (st : Nat → Status) (t : Nat) (a : Act) :
    a ∈ runTickPinned dags susp st t ↔
      ∃ d ∈ dags, susp d.id = false ∧ ∃ e ∈ entriesOf d, entryAct st t e = some a := by
  unfold runTickPinned readEntries
  simp only [List.mem_filterMap, List.mem_flatMap, List.mem_filter]
  constructor
  · rintro ⟨e, ⟨d, ⟨hd, hs⟩, he⟩, ha⟩
    exact ⟨d, hd, by simpa using hs, e, he, ha⟩
  · rintro ⟨d, hd, hs, e, he, ha⟩
    exact ⟨e, ⟨d, ⟨hd, by simp [hs]⟩, he⟩, ha⟩

/-- a client call is its kind and its DAG -/
def Act.kind : Act → Kind
  | .start _ => .start
  | .stop _ => .stop
  | .restart _ => .restart

/-- the key of a call, to be compared with `Entry.key` -/
def Act.key (a : Act) : Kind × Nat := (a.kind, a.dag)

def Dag.specs (x : Dag) : Kind → List Spec
  | .start => x.starts
  | .stop => x.stops
  | .restart => x.restarts

theorem mem_entriesOf (d : Dag) (e : Entry) : e ∈ entriesOf d ↔ e.dag = d.id ∧ e.spec ∈ d.specs e.kind := by
  obtain ⟨i, k, sp⟩ := e
  cases k <;> simp [entriesOf, Dag.specs, eq_comm] <;> exact and_comm

/-- the guards of `jobImpl.Start` / `Stop` / `Restart`, as propositions -/
def Guard : Kind → Nat → Status → Prop
  | .start, jnext, st => st.err = false ∧ st.running = false ∧ ∀ l, st.started = some l → truncMin l < jnext
  | .stop, _, st => st.err = false ∧ st.running = true
  | .restart, _, _ => True

theorem invoke_eq_some_iff (e : Entry) (j : Nat) (st : Status) (a : Act) :
    invoke e j st = some a ↔ a.key = e.key ∧ Guard e.kind j st := by
  obtain ⟨i, k, sp⟩ := e
  cases k
  · cases he : st.err <;> cases hr : st.running <;> cases hs : st.started <;> cases a <;>
      simp [invoke, jobStart, Act.key, Act.kind, Act.dag, Entry.key, Guard, he, hr, hs, eq_comm, and_comm]
  · cases he : st.err <;> cases hr : st.running <;> cases a <;>
      simp [invoke, jobStop, Act.key, Act.kind, Act.dag, Entry.key, Guard, he, hr, eq_comm]
  · cases a <;> simp [invoke, jobRestart, Act.key, Act.kind, Act.dag, Entry.key, Guard, eq_comm]

theorem entryAct_eq_some_iff (st : Nat → Status) (t : Nat) (e : Entry) (a : Act) :
    entryAct st t e = some a ↔ invoked e.spec t = true ∧ a.key = e.key ∧ Guard e.kind t (st e.dag) := by
  rw [entryAct_eq]
  split
  · rename_i h; simp only [h, true_and]; exact invoke_eq_some_iff e t _ a
  · rename_i h; simp [h]

theorem entryAct_dag (st : Nat → Status) (t : Nat) (e : Entry) (a : Act) (h : entryAct st t e = some a) :
    a.dag = e.dag := by
  obtain ⟨_, hkey, _⟩ := (entryAct_eq_some_iff st t e a).mp h
  exact congrArg Prod.snd hkey

/-! ## the loader never panics (since the F9 / F26 fixes) -/

theorem parseCron_ne_panic (v : List Char) : parseCron v ≠ .panic := by
  unfold parseCron
  cases parse v <;> simp

theorem parseList_no_panic : ∀ (vs : List (List Char)) (bad : Load), parseList vs = .inr bad → bad ≠ .panic
  | [], _, h => by simp [parseList] at h
  | v :: rest, bad, h => by
    have ih := parseList_no_panic rest
    rw [parseList] at h
    have hp := parseCron_ne_panic v
    cases hv : parseCron v <;> rw [hv] at h hp
    · cases hr : parseList rest <;> rw [hr] at h
      · cases h
      · cases h; exact ih _ hr
    · cases h; simp
    · exact absurd rfl hp
    · cases h; simp

/-- the three `match parseList vals with` arms of `scheduleMap` -/
theorem scheduleMap_arm {α : Type} (vals : List (List Char)) (k : Sum α Load) (bad : Load) (hk : k = .inr bad → bad ≠ .panic)
    (h : (match parseList vals with
      | .inr bad => .inr bad
      | .inl _ => k) = Sum.inr bad) : bad ≠ .panic := by
  cases hp : parseList vals <;> rw [hp] at h
  · exact hk h
  · cases h; exact parseList_no_panic vals _ hp

theorem scheduleMap_no_panic : ∀ (kvs : List (SKey × SVal)) (acc : List (List Char) × List (List Char) × List (List Char))
    (bad : Load), scheduleMap kvs acc = .inr bad → bad ≠ .panic
  | [], _, _, h => by simp [scheduleMap] at h
  | (k, v) :: rest, (a, b, c), bad, h => by
    have ih := scheduleMap_no_panic rest
    rw [scheduleMap] at h
    split at h
    · cases h; simp
    · split at h
      · cases h; simp
      · split at h
        · exact scheduleMap_arm _ _ bad (ih _ bad) h
        · exact scheduleMap_arm _ _ bad (ih _ bad) h
        · exact scheduleMap_arm _ _ bad (ih _ bad) h
        · cases h; simp

theorem parseThree_no_panic (a b c : List (List Char)) : parseThree a b c ≠ .panic := by
  unfold parseThree
  split
  · rename_i bad h; exact parseList_no_panic a bad h
  · split
    · rename_i bad h; exact parseList_no_panic b bad h
    · split
      · rename_i bad h; exact parseList_no_panic c bad h
      · simp

theorem buildSchedule_no_panic (d : SchedDef) : buildSchedule d ≠ .panic := by
  unfold buildSchedule
  split
  · simp
  · simp
  · exact parseThree_no_panic _ _ _
  · split
    · exact parseThree_no_panic _ _ _
    · simp
  · simp
  · split
    · rename_i bad h; exact scheduleMap_no_panic _ _ bad h
    · exact parseThree_no_panic _ _ _

theorem initDags_isSome : ∀ (files : List (Nat × Load)), (∀ f ∈ files, f.2 ≠ .panic) →
    ∀ m, (initDags files m).isSome = true
  | [], _, _ => rfl
  | (id, l) :: rest, h, m => by
    have ih := initDags_isSome rest (fun f hf => h f (List.mem_cons_of_mem _ hf))
    have hl : l ≠ .panic := h (id, l) List.mem_cons_self
    rw [initDags]
    cases l with
    | panic => exact absurd rfl hl
    | _ => exact ih _

theorem initDags_skip_err (pre post : List (Nat × Load)) (id : Nat) (m : List Dag) :
    initDags (pre ++ (id, .err) :: post) m = initDags (pre ++ post) m := by
  induction pre generalizing m with
  | nil => simp [initDags, loadFile]
  | cons p rest ih =>
    obtain ⟨pid, pl⟩ := p
    simp only [List.cons_append, initDags]
    cases loadFile m pid pl with
    | none => rfl
    | some m' => exact ih m'

theorem entriesOf_filter_dag (x : Dag) (d : Nat) :
    (entriesOf x).filter (fun e => e.dag == d) = if x.id == d then entriesOf x else [] := by
  split
  · rename_i h; exact List.filter_eq_self.mpr (fun e he => by rw [((mem_entriesOf x e).mp he).1]; exact h)
  · rename_i h; exact List.filter_eq_nil_iff.mpr (fun e he => by rw [((mem_entriesOf x e).mp he).1]; exact h)

theorem readEntries_filter_dag (dags : List Dag) (susp : Nat → Bool) (d : Nat) :
    (readEntries dags susp).filter (fun e => e.dag == d) = readEntries (dags.filter (fun x => x.id == d)) susp := by
  induction dags with
  | nil => rfl
  | cons x rest ih =>
    rw [readEntries_cons, List.filter_append, ih, List.filter_cons]
    cases hs : susp x.id <;> cases hx : x.id == d <;> simp [hs, hx, entriesOf_filter_dag, readEntries_cons]

theorem filter_filterMap_dag (st : Nat → Status) (t d : Nat) (l : List Entry) :
    (l.filterMap (entryAct st t)).filter (fun a => a.dag == d) =
      (l.filter (fun e => e.dag == d)).filterMap (entryAct st t) := by
  rw [List.filter_filterMap, List.filterMap_filter]
  congr 1
  funext e
  cases h : entryAct st t e with
  | none => simp
  | some a => simp [Option.filter, entryAct_dag st t e a h]

/-- the calls issued for DAG `d` depend only on the definitions loaded under id `d` -/
theorem runTickPinned_filter_dag (dags : List Dag) (susp : Nat → Bool) (st : Nat → Status) (t d : Nat) :
    (runTickPinned dags susp st t).filter (fun a => a.dag == d) =
      runTickPinned (dags.filter (fun x => x.id == d)) susp st t := by
  unfold runTickPinned
  rw [filter_filterMap_dag, readEntries_filter_dag]

theorem replace_filter_other (m : List Dag) (x : Dag) (d : Nat) (h : x.id ≠ d) :
    (m.map (fun y => if y.id == x.id then x else y)).filter (fun y => y.id == d) = m.filter (fun y => y.id == d) := by
  induction m with
  | nil => rfl
  | cons y rest ih =>
    simp only [List.map_cons, List.filter_cons, ih]
    by_cases hy : y.id = x.id
    · simp [hy, h]
    · simp [hy]

theorem upsert_filter_other (m : List Dag) (x : Dag) (d : Nat) (h : x.id ≠ d) :
    (upsert m x).filter (fun y => y.id == d) = m.filter (fun y => y.id == d) := by
  unfold upsert
  split
  · exact replace_filter_other m x d h
  · simp [List.filter_append, h]

end BdModel.Cron
