import BdModel.Canon.Load
/-
  C19 — side effects of loading. The model is an INTERPRETER of the effect-site table that the extractor
  regenerates from internal/dag/{builder,parser,loader}.go on every run (tie: Extracted.Load.* = Canon.Load.*):

    effectSites   [func, callee, idx, kind, needNoEval, needMetadataOnly]
    callEdges     [caller, callee, needNoEval, needMetadataOnly]
    builderFields [builder step function, definition field it reads]
    entryOpts     [entry point, metadataOnly, noEval]

  An effect (exec / setenv) is reachable from an entry point for a definition field iff a builder step that
  reads the field is run by `build` under the entry's options and a chain of calls whose guards hold under
  those options leads to the site, whose own guard holds too.

  History: on the tree before 37ddbbb / e8e8d59 this table had `buildLogDir → substituteCommands` and the
  `os.Setenv($n)` of parseParams without a `noEval` guard, and `C19_full` was refuted (F23, F24); both are
  guarded now and `C19_full` is proved from three conditions on the regenerated table, each checked by `decide`.
-/
namespace BdModel.Load.Effects

structure Tables where
  sites : List (List String)
  edges : List (List String)
  fields : List (List String)
  entries : List (List String)

def canon : Tables :=
  { sites := Canon.Load.effectSites, edges := Canon.Load.callEdges,
    fields := Canon.Load.builderFields, entries := Canon.Load.entryOpts }

structure EOpts where
  noEval : Bool
  metadataOnly : Bool
deriving DecidableEq, Repr

def col (r : List String) (i : Nat) : String := r.getD i ""

/-- guard column: "T" needs the option set, "F" needs it unset, anything else: no constraint -/
def holds (g : String) (v : Bool) : Bool := if g == "T" then v else if g == "F" then !v else true

def optsOf (T : Tables) (entry : String) : Option EOpts :=
  (T.entries.find? (fun r => col r 0 == entry)).map (fun r => { noEval := col r 2 == "true", metadataOnly := col r 1 == "true" })

def edgeOk (o : EOpts) (r : List String) : Bool := holds (col r 2) o.noEval && holds (col r 3) o.metadataOnly

def addNew (acc : List String) : List String → List String
  | [] => acc
  | x :: xs => if acc.contains x then addNew acc xs else addNew (acc ++ [x]) xs

/-- one round: callees of the functions reached so far, over edges whose guard holds -/
def stepFns (T : Tables) (o : EOpts) (fs : List String) : List String :=
  addNew fs ((T.edges.filter (fun r => edgeOk o r && fs.contains (col r 0))).map (fun r => col r 1))

def closure (T : Tables) (o : EOpts) : Nat → List String → List String
  | 0, fs => fs
  | n + 1, fs =>
    let fs' := stepFns T o fs
    if fs'.length == fs.length then fs else closure T o n fs'   -- nothing new: fix-point

/-- functions reachable from `start` (fuel = number of edges: every round adds a function or is a fix-point) -/
def reachFns (T : Tables) (o : EOpts) (start : List String) : List String := closure T o T.edges.length start

structure Effect where
  fn : String
  callee : String
  idx : String
deriving DecidableEq, Repr

def isEffectRow (r : List String) : Bool := col r 3 == "exec" || col r 3 == "setenv"

/-- builder steps that read the field and that `build` runs under the options -/
def builders (T : Tables) (o : EOpts) (field : String) : List String :=
  ((T.fields.filter (fun r => col r 1 == field && col r 0 != "build")).map (fun r => col r 0)).filter
    (fun b => T.edges.any (fun e => col e 0 == "build" && col e 1 == b && edgeOk o e))

def reachO (T : Tables) (o : EOpts) (field : String) : List Effect :=
  let fns := reachFns T o (builders T o field)
  (T.sites.filter (fun r => isEffectRow r && fns.contains (col r 0) && holds (col r 4) o.noEval && holds (col r 5) o.metadataOnly)).map
    (fun r => { fn := col r 0, callee := col r 1, idx := col r 2 })

/-- effects reachable from an entry point through a definition field -/
def reach (T : Tables) (entry field : String) : List Effect :=
  match optsOf T entry with
  | some o => if (reachFns T o [entry]).contains "build" then reachO T o field else []
  | none => []

/-- the definition fields some builder step reads -/
def mentioned (T : Tables) : List String := addNew [] (T.fields.map (fun r => col r 1))

def nonEvaluatingEntries : List String := ["LoadYAML", "LoadMetadata", "LoadWithoutEval"]

end BdModel.Load.Effects
